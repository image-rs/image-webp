import WebpVerif.Lemmas.EncToks
import WebpVerif.Lemmas.EncFreq

/-!
Assembly of the bit-level round trip.  The codes of the four pixel alphabets satisfy the
contract `CodeOK`, every token satisfies `TokOK`, every field is valid, and the specification
decoder applied to the encoder's bytes returns the input.
-/
namespace EncRT
open Enc EncHuff EncTree Prefix BitWriterProof VP8LP

/-- one of the three byte alphabets (channel `c` of the tokens): entropy coded (`coded`) with
    histogram `fa`, or written as the single symbol `s` -/
theorem chan_ok (coded : Prop) [Decidable coded] (fa : Array Nat) (hs : fa.size = 256) (hsum : fa.toList.sum < 2 ^ 32)
    (s : Nat) (hs256 : s < 256) (toks : List (List Nat × Nat)) (hne : toks ≠ []) (c : Nat)
    (hcoded : coded → ∀ t ∈ toks, t.1.getD c 0 < 256 ∧ 0 < fa[t.1.getD c 0]!) (hplain : ¬ coded → ∀ t ∈ toks, t.1.getD c 0 = s) :
    ∃ n, CodeOK 256 (if coded then treeFieldsOf fa.toList else singleFields s)
      (if coded then (treeCodeOf fa.toList).1 else Array.replicate 256 0)
      (if coded then (treeCodeOf fa.toList).2 else Array.replicate 256 0) n (fun j => ∃ t ∈ toks, t.1.getD c 0 = j) := by
  obtain ⟨t0, ht0⟩ := List.exists_mem_of_ne_nil toks hne
  by_cases hc : coded
  · simp only [hc, if_true]
    obtain ⟨n, h⟩ := codeOK_tree fa (by omega) hsum _ (hcoded hc t0 ht0).1 (hcoded hc t0 ht0).2
    rw [hs] at h
    exact ⟨n, h.mono fun j ⟨t, ht, e⟩ => e ▸ hcoded hc t ht⟩
  · simp only [hc, if_false]
    exact ⟨oneHot 256 s, (codeOK_single 256 s hs256 hs256 256).mono fun j ⟨t, ht, e⟩ => e ▸ hplain hc t ht⟩

/-- **the codes and tokens of a frame satisfy the round-trip contracts**: the five codes are
    well-formed fields which the decoder reads back as `ls`, and every token is coded with them -/
theorem frame_codes (data : List Nat) (w h color : Nat) (pred : Bool) (hc : color ≤ 3) (hd : ∀ b ∈ data, b < 256)
    (hlen : (expand color data).length = w * h) (hpos : 1 ≤ w * h) (hmax : w * h ≤ 2 ^ 28)
    (px : List (List Nat)) (hpxdef : px = residuals data w color pred)
    (toks : List (List Nat × Nat)) (htoks : toks = tokenize px px.length)
    (f : Array Nat × Array Nat × Array Nat × Array Nat)
    (hf : f = toks.foldl (countTok (color ≥ 2) (color = 1 ∨ color = 3)) (initFreqs color)) :
    ∃ ls : Lens, Valid (treesFieldsOf color pred f) ∧
      (∀ rest, readGroup specDec (alphabets 0) #[] (fieldBits (treesFieldsOf color pred f) ++ rest) =
        some (#[specDec ls.n1, specDec ls.n0, specDec ls.n2, specDec ls.n3, specDec (oneHot 40 1)], rest)) ∧
      (∀ t ∈ toks, TokOK color (tabsOf color f) ls t) ∧ expandToks toks = px ∧ px.length = w * h := by
  have halpha : color = 0 ∨ color = 2 ↔ ¬ (color = 1 ∨ color = 3) := by omega
  obtain ⟨hpx, hpxlen⟩ := residuals_px data w color pred hd
  rw [← hpxdef] at hpx hpxlen
  rw [hlen] at hpxlen
  obtain ⟨hexp, htk, htl⟩ := tokens_inv px px.length (Nat.le_refl _)
  rw [← htoks] at hexp htk htl
  have hne : toks ≠ [] := by
    intro he
    rw [he] at hexp
    rw [← hpxlen, ← hexp] at hpos
    exact Nat.not_succ_le_zero 0 hpos
  have hin : ∀ t ∈ toks, TokIn t := fun t ht =>
    have ⟨p0, p1, p2, p3⟩ := hpx t.1 (htk t ht).2
    ⟨p0, p1, p2, p3, runSymbol_lt t.2 (htk t ht).1⟩
  have hres : ∀ t ∈ toks, t.1 ∈ residuals data w color pred := fun t ht => hpxdef ▸ (htk t ht).2
  obtain ⟨i0, i1, i2, i3⟩ := initFreqs_grows color
  obtain ⟨g0, g1, g2, g3⟩ := countToks_grows (decide (color ≥ 2)) (decide (color = 1 ∨ color = 3)) toks (initFreqs color)
  have hcnt := countToks_counted (decide (color ≥ 2)) (decide (color = 1 ∨ color = 3)) toks (initFreqs color)
    i0.of_zeros.1 i1.of_zeros.1 i2.of_zeros.1 i3.of_zeros.1 hin
  rw [← hf] at g0 g1 g2 g3 hcnt
  obtain ⟨s0, b0⟩ := (i0.trans g0).of_zeros
  obtain ⟨s1, b1⟩ := (i1.trans g1).of_zeros
  obtain ⟨s2, b2⟩ := (i2.trans g2).of_zeros
  obtain ⟨s3, b3⟩ := (i3.trans g3).of_zeros
  have hB : 1 + 2 * toks.length < 2 ^ 32 := by omega
  obtain ⟨t0, ht0⟩ := List.exists_mem_of_ne_nil toks hne
  -- green, then red, blue, alpha
  obtain ⟨n1, hn1⟩ := codeOK_tree f.2.1 (by omega) (Nat.lt_of_le_of_lt b1 hB) (t0.1.getD 1 0)
    (hin t0 ht0).2.1 (hcnt t0 ht0).1
  rw [s1] at hn1
  obtain ⟨n0, hn0⟩ := chan_ok (color ≥ 2) f.1 s0 (Nat.lt_of_le_of_lt b0 hB) 0 (by decide) toks hne 0
    (fun hc2 t ht => ⟨(hin t ht).1, ((hcnt t ht).2.2.1 (decide_eq_true hc2)).1⟩)
    (fun hc2 t ht => (residuals_grey data w color pred hd (Nat.lt_of_not_le hc2) t.1 (hres t ht)).1)
  obtain ⟨n2, hn2⟩ := chan_ok (color ≥ 2) f.2.2.1 s2 (Nat.lt_of_le_of_lt b2 hB) 0 (by decide) toks hne 2
    (fun hc2 t ht => ⟨(hin t ht).2.2.1, ((hcnt t ht).2.2.1 (decide_eq_true hc2)).2⟩)
    (fun hc2 t ht => (residuals_grey data w color pred hd (Nat.lt_of_not_le hc2) t.1 (hres t ht)).2)
  obtain ⟨n3, hn3⟩ := chan_ok (color = 1 ∨ color = 3) f.2.2.2 s3 (Nat.lt_of_le_of_lt b3 hB) (if pred then 0 else 255) (by split <;> decide) toks hne 3
    (fun ha t ht => ⟨(hin t ht).2.2.2.1, (hcnt t ht).2.2.2 (decide_eq_true ha)⟩)
    (fun ha t ht => residuals_opaque data w color pred hd (halpha.mpr ha) t.1 (hres t ht))
  refine ⟨⟨n0, n1, n2, n3⟩,
    valid_append hn1.valid (valid_append hn0.valid (valid_append hn2.valid (valid_append hn3.valid
      (singleFields_valid 1 (by decide))))),
    readGroup_enc _ _ _ _ 1 (by decide) _ _ _ _ hn1.read hn0.read hn2.read hn3.read, fun t ht => ?_, hexp, hpxlen⟩
  refine ⟨hn1.sym _ ⟨Nat.lt_trans (hin t ht).2.1 (by decide), (hcnt t ht).1⟩, hn0.sym _ ⟨t, ht, rfl⟩, hn2.sym _ ⟨t, ht, rfl⟩,
    hn3.sym _ ⟨t, ht, rfl⟩, fun hr => hn1.sym _ ⟨(hin t ht).2.2.2.2, (hcnt t ht).2.1 hr⟩, fun hlt => ?_, fun hop => ?_,
    (hin t ht).2.1, (htk t ht).1⟩
  · simp only [tabsOf, Nat.not_le_of_lt hlt, if_false, ArrayWrites.get_zeros, and_self]
  · simp only [tabsOf, halpha.mp hop, if_false, ArrayWrites.get_zeros, and_self]

theorem headFields_valid (w h : Nat) (isAlpha pred : Bool) (hw : w ≤ 16384) (hh : h ≤ 16384) (hw1 : 1 ≤ w) (hh1 : 1 ≤ h) :
    Valid (headFields w h isAlpha pred) := by
  unfold headFields trFields subFields
  have e14 : (2 : Nat) ^ 14 = 16384 := by decide
  have hs := singleFields_valid 0 (by decide)
  refine valid_cons _ _ (by decide) (by decide) _ (valid_cons _ _ (by decide) (by omega) _ (valid_cons _ _ (by decide) (by omega) _
    (valid_cons _ _ (by decide) (by cases isAlpha <;> decide) _ (valid_cons 0 3 (by decide) (by decide) _
    (valid_cons _ _ (by decide) (by decide) _ (valid_append (valid_append ?_ (valid_of_all _ rfl)) (valid_of_all _ rfl)))))))
  cases pred
  · exact valid_nil
  · exact valid_cons _ _ (by decide) (by decide) _ (valid_cons 0 1 (by decide) (by decide) _ (valid_append
      (singleFields_valid 2 (by decide)) (valid_append hs (valid_append hs (valid_append hs hs)))))

theorem tokFields_valid (color : Nat) (hc : color ≤ 3) (tb : Tabs) (ls : Lens) (t : List Nat × Nat) (h : TokOK color tb ls t) :
    Valid (tokFields color tb t) := by
  obtain ⟨hlt, h60, _⟩ := litField_spec color hc tb ls t h
  unfold tokFields runFields
  apply valid_cons _ _ (by omega) hlt
  split
  · exact valid_nil
  · have hs := h.run (by omega)
    apply valid_cons _ _ (by have := hs.2.1; omega) hs.1
    split
    · exact valid_nil
    · obtain ⟨_, s4, sx, _⟩ := EncLen.length_symbol_inv t.2 (by have := h.r4096; omega) (by omega)
      unfold LK.copyExtraBits at sx
      rw [if_neg (by omega)] at sx
      exact valid_cons _ _ (by omega) (Nat.mod_lt _ (Nat.two_pow_pos _)) _ valid_nil

theorem bitsOfBytes_eq (bs : List Nat) : bitsOfBytes bs = bytesBits bs := rfl

theorem decodeBits_shape (w1 h1 a : Nat) (hw : w1 < 2 ^ 14) (hh : h1 < 2 ^ 14) (ha : a < 2 ^ 1) (rest : List Nat) :
    decodeBits specDec (lsbBits 0x2f 8 ++ (lsbBits w1 14 ++ (lsbBits h1 14 ++ (lsbBits a 1 ++ (lsbBits 0 3 ++ rest))))) =
      match readTransforms specDec (h1 + 1) 5 (w1 + 1) [] [] rest with
      | none => none
      | some (xsize, ts, bits) =>
        match readMain specDec xsize (h1 + 1) bits with
        | none => none
        | some (img, _) => some (w1 + 1, h1 + 1, applyT (w1 + 1) (h1 + 1) ts xsize img) := by
  simp (disch := first | decide | assumption) only [decodeBits, readBitsL_field, ne_eq, not_true_eq_false, ↓reduceIte]
  rfl

/-- **The lossless encoder round-trips every image through the specification decoder.**
    For every image (`w`, `h` in 1..16384, any of the four colour types, with or without the
    predictor transform, any pixel bytes) `encode_frame` succeeds and the specification decoder
    applied to the bytes it returns yields exactly the input pixels (grey expanded, missing alpha
    255) with the same dimensions. -/
theorem encode_decodes (data : List Nat) (w h color : Nat) (pred : Bool) (hw1 : 1 ≤ w) (hw : w ≤ 16384) (hh1 : 1 ≤ h) (hh : h ≤ 16384)
    (hc : color ≤ 3) (hd : ∀ b ∈ data, b < 256) (hlen : data.length = w * h * bytesPer color) :
    ∃ out, encodeFrame data w h color pred = some out ∧
      VP8LP.decode out.toList = some (w, h, (expand color data).map pack) := by
  have hexp : (expand color data).length = w * h := expand_length color hc data (w * h) hlen
  have hpos : 1 ≤ w * h := Nat.mul_pos hw1 hh1
  have hmax : w * h ≤ 2 ^ 28 := Nat.le_trans (Nat.mul_le_mul hw hh) (by decide)
  have ew := Nat.sub_add_cancel hw1
  have eh := Nat.sub_add_cancel hh1
  obtain ⟨ls, hvt, hread, htok, hexpand, hpxlen⟩ := frame_codes data w h color pred hc hd hexp hpos hmax _ rfl _ rfl _ rfl
  have hv : Valid (frameFields data w h color pred) :=
    valid_append (headFields_valid w h _ pred hw hh hw1 hh1) (valid_append hvt fun x hx =>
      have ⟨t, ht, hxt⟩ := List.mem_flatMap.mp hx
      tokFields_valid color hc _ ls t (htok t ht) x hxt)
  refine ⟨output (frameFields data w h color pred), encodeFrame_fields data w h color pred (by omega), ?_⟩
  unfold VP8LP.decode
  rw [bitsOfBytes_eq, output_bits _ hv]
  generalize 8 * (((streamOf (frameFields data w h color pred)).2 + 7) / 8) - (streamOf (frameFields data w h color pred)).2 = padn
  unfold frameFields headFields
  simp only [fieldBits_append, fieldBits_cons, List.append_assoc, fieldBits_nil, List.nil_append]
  rw [decodeBits_shape (w - 1) (h - 1) _ (Nat.sub_one_lt_of_le hw1 hw) (Nat.sub_one_lt_of_le hh1 hh) (by split <;> decide),
    readTransforms_enc]
  simp only
  have hm := readMain_enc (w - 1 + 1) (h - 1 + 1) color hc _ ls _ hread _ htok
    (by rw [hexpand, hpxlen, ew, eh]) (List.replicate padn 0)
  simp only [fieldBits_cons, List.append_assoc, fieldBits_nil, List.nil_append] at hm
  rw [hm]
  simp only
  rw [hexpand, ew, eh, applyT_enc data w h color pred hw1 hd hexp]

end EncRT
