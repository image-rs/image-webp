import WebpVerif.Model.Vp8Frame

/-!
What holds of the whole-frame model `Vp8Frame.decode` for every byte string: accepted frames come
out in the display size, and a macroblock loop over `rows` rows adds `rows * mbw` entries to the
list of macroblocks.
-/
namespace Vp8FrameProof
open Vp8Frame

theorem crop_length (buf : Array Nat) (stride w h : Nat) : (Vp8LF.crop buf stride w h).length = w * h := by
  unfold Vp8LF.crop; simp

/-- every accepted key frame comes out with planes of the display size: `w x h` luma and
    `ceil(w/2) x ceil(h/2)` chroma samples, `w`, `h` the 14-bit fields of the frame header -/
theorem plane_sizes (frame : List Nat) (w h : Nat) (y u v : List Nat) (hd : decode frame = some (w, h, y, u, v)) :
    w = (frame.getD 6 0 + 256 * frame.getD 7 0) % 16384 ∧ h = (frame.getD 8 0 + 256 * frame.getD 9 0) % 16384 ∧
    y.length = w * h ∧ u.length = ((w + 1) / 2) * ((h + 1) / 2) ∧ v.length = ((w + 1) / 2) * ((h + 1) / 2) := by
  unfold decode at hd
  by_cases h1 : frame.length < 10
  · rw [if_pos h1] at hd; cases hd
  rw [if_neg h1] at hd
  simp only [] at hd
  by_cases h2 : ((frame.getD 0 0 + 256 * frame.getD 1 0 + 65536 * frame.getD 2 0) % 2 != 0) = true
  · rw [if_pos h2] at hd; cases hd
  rw [if_neg h2] at hd
  by_cases h3 : ((frame.getD 3 0, frame.getD 4 0, frame.getD 5 0) != (0x9d, 0x01, 0x2a)) = true
  · rw [if_pos h3] at hd; cases hd
  rw [if_neg h3] at hd
  by_cases h4 : (List.drop 10 frame).length < (frame.getD 0 0 + 256 * frame.getD 1 0 + 65536 * frame.getD 2 0) / 32
  · rw [if_pos h4] at hd; cases hd
  rw [if_neg h4] at hd
  split at hd
  · cases hd
  split at hd
  · cases hd
  split at hd
  · cases hd
  simp only [Option.some.injEq, Prod.mk.injEq] at hd
  obtain ⟨rfl, rfl, rfl, rfl, rfl⟩ := hd
  refine ⟨rfl, rfl, crop_length _ _ _ _, crop_length _ _ _ _, crop_length _ _ _ _⟩

theorem mbStep_size (h : Vp8Header.Hdr) (tp : Array Nat) (mbw nparts mbx mby : Nat) (s s' : St)
    (e : mbStep h tp mbw nparts mbx mby s = some s') : s'.mbs.size = s.mbs.size + 1 := by
  unfold mbStep at e
  split at e
  · cases e
  · simp only [] at e
    split at e
    · cases e
    · simp only [Option.some.injEq] at e
      subst e
      simp

theorem rowLoop_size (h : Vp8Header.Hdr) (tp : Array Nat) (mbw nparts mby : Nat) :
    ∀ n mbx (s s' : St), rowLoop h tp mbw nparts mby n mbx s = some s' → s'.mbs.size = s.mbs.size + n := by
  intro n
  induction n with
  | zero => intro mbx s s' e; cases e; rfl
  | succ n ih =>
    intro mbx s s' e
    unfold rowLoop at e
    split at e
    · cases e
    · rename_i s1 h1
      rw [ih _ _ _ e, mbStep_size h tp mbw nparts mbx mby s s1 h1, Nat.add_assoc, Nat.add_comm 1]

theorem frameLoop_size (h : Vp8Header.Hdr) (tp : Array Nat) (mbw nparts : Nat) :
    ∀ n mby (s s' : St), frameLoop h tp mbw nparts n mby s = some s' → s'.mbs.size = s.mbs.size + n * mbw := by
  intro n
  induction n with
  | zero => intro mby s s' e; cases e; rw [Nat.zero_mul]; rfl
  | succ n ih =>
    intro mby s s' e
    unfold frameLoop at e
    split at e
    · cases e
    · rename_i s1 h1
      have h2 : s1.mbs.size = s.mbs.size + mbw := rowLoop_size h tp mbw nparts mby mbw 0 { s with leftCtx := Array.replicate 9 0, leftB := Array.replicate 4 0 } s1 h1
      have h3 : s'.mbs.size = s1.mbs.size + n * mbw := ih _ { s1 with leftBorder := Array.replicate 17 129 } _ e
      rw [h3, h2, Nat.succ_mul, Nat.add_assoc, Nat.add_comm mbw]

end Vp8FrameProof
