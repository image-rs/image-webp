import WebpVerif.Model.Vp8Coef
import Mathlib.Tactic.IntervalCases

/-! The boolean decoder of `vp8_arithmetic_decoder.rs`. A speculative fast read whose result is
committed equals the cold read, so every public read is its cold path (`read*_cold`); the cold
path keeps the decoder invariant `WF`, which `init` establishes. -/

namespace Arith

/-- register invariant between reads: `range` is normalised and `bit_count` is in `-8..=31`
    (negative: a reload comes before the next `decide`, see `Ready`) -/
def Inv (s : State) : Prop := 128 ≤ s.range ∧ s.range ≤ 255 ∧ -8 ≤ s.bitCount ∧ s.bitCount ≤ 31

/-- the state may be handed to `decide`: a non-negative shift amount below 32 -/
def Ready (s : State) : Prop := 128 ≤ s.range ∧ s.range ≤ 255 ∧ 0 ≤ s.bitCount ∧ s.bitCount ≤ 31

theorem half_add (k : Nat) : (k + 1) / 2 + k / 2 = k := by
  induction k with
  | zero => rfl
  | succ k ih => rw [Nat.add_div_right _ (by decide : 0 < 2), Nat.succ_add, Nat.add_comm, ih]

theorem flag_split (r : Nat) (h : 1 ≤ r) : r - r / 2 = splitOf r 128 ∧ r - splitOf r 128 = r / 2 := by
  obtain ⟨k, rfl⟩ := Nat.exists_eq_add_of_le' h
  have e : splitOf (k + 1) 128 = k / 2 + 1 := (Nat.add_comm _ _).trans (congrArg (· + 1)
    ((Nat.shiftRight_eq_div_pow _ 8).trans (Nat.mul_div_mul_right k 2 (by decide : 0 < 128))))
  have s : k + 1 = (k + 1) / 2 + (k / 2 + 1) := congrArg (· + 1) (half_add k).symm
  rw [e]
  exact ⟨Nat.sub_eq_of_eq_add (s.trans (Nat.add_comm _ _)), Nat.sub_eq_of_eq_add s⟩

theorem splitOf_bounds (r p : Nat) (hr : 128 ≤ r) (hr2 : r ≤ 255) (hp : p < 256) :
    1 ≤ splitOf r p ∧ splitOf r p < r := by
  have h0 : 0 < r - 1 := Nat.sub_pos_of_lt (Nat.lt_of_lt_of_le (by decide) hr)
  refine ⟨Nat.le_add_right 1 _, Nat.lt_sub_iff_add_lt'.mp ?_⟩
  rw [Nat.shiftRight_eq_div_pow]
  exact Nat.div_lt_of_lt_mul (Nat.lt_of_lt_of_eq (Nat.mul_lt_mul_of_pos_left hp h0) (Nat.mul_comm _ _))

/-- the branch of `normShift` taken for `2^(7-k) ≤ r < 2^(8-k)` shifts by `k` -/
theorem norm_branch (r k : Nat) (lo : 2 ^ (7 - k) ≤ r) (hi : ¬ r ≥ 2 ^ (8 - k)) (hk : k ≤ 7 := by decide) :
    128 ≤ r * 2 ^ k ∧ r * 2 ^ k ≤ 255 ∧ k ≤ 7 := by
  have e7 : 2 ^ (7 - k) * 2 ^ k = 128 := by rw [← Nat.pow_add, Nat.sub_add_cancel hk]
  have e8 : 2 ^ (8 - k) * 2 ^ k = 256 := by rw [← Nat.pow_add, Nat.sub_add_cancel (Nat.le_succ_of_le hk)]
  exact ⟨Nat.le_trans (Nat.le_of_eq e7.symm) (Nat.mul_le_mul_right _ lo),
    Nat.le_of_lt_succ (Nat.lt_of_lt_of_eq (Nat.mul_lt_mul_of_pos_right (Nat.lt_of_not_le hi) (Nat.two_pow_pos k)) e8), hk⟩

theorem normShift_spec (r : Nat) (h1 : 1 ≤ r) (h2 : r ≤ 255) :
    128 ≤ r * 2 ^ normShift r ∧ r * 2 ^ normShift r ≤ 255 ∧ normShift r ≤ 7 := by
  generalize hn : normShift r = n
  unfold normShift at hn
  have h256 : ¬ r ≥ 256 := Nat.not_le.mpr (Nat.lt_succ_of_le h2)
  rw [if_neg h256] at hn
  by_cases h128 : r ≥ 128
  · rw [if_pos h128] at hn; subst hn; exact norm_branch r 0 h128 h256
  rw [if_neg h128] at hn
  by_cases h64 : r ≥ 64
  · rw [if_pos h64] at hn; subst hn; exact norm_branch r 1 h64 h128
  rw [if_neg h64] at hn
  by_cases h32 : r ≥ 32
  · rw [if_pos h32] at hn; subst hn; exact norm_branch r 2 h32 h64
  rw [if_neg h32] at hn
  by_cases h16 : r ≥ 16
  · rw [if_pos h16] at hn; subst hn; exact norm_branch r 3 h16 h32
  rw [if_neg h16] at hn
  by_cases h8 : r ≥ 8
  · rw [if_pos h8] at hn; subst hn; exact norm_branch r 4 h8 h16
  rw [if_neg h8] at hn
  by_cases h4 : r ≥ 4
  · rw [if_pos h4] at hn; subst hn; exact norm_branch r 5 h4 h8
  rw [if_neg h4] at hn
  by_cases h2' : r ≥ 2
  · rw [if_pos h2'] at hn; subst hn; exact norm_branch r 6 h2' h4
  rw [if_neg h2', if_pos h1] at hn; subst hn; exact norm_branch r 7 h1 h2'
/-- one more doubling leaves `128..=255` -/
theorem shift_le (r a b : Nat) (ha : 128 ≤ r * 2 ^ a) (hb : r * 2 ^ b ≤ 255) : b ≤ a := by
  by_contra h
  have := Nat.mul_le_mul_left r (Nat.pow_le_pow_right (by decide : 0 < 2) (Nat.lt_of_not_le h))
  rw [Nat.pow_succ, ← Nat.mul_assoc] at this; omega

theorem normShift_eq (r n : Nat) (h1 : 128 ≤ r * 2 ^ n) (h2 : r * 2 ^ n ≤ 255) : normShift r = n := by
  obtain ⟨a, b, _⟩ := normShift_spec r (Nat.pos_of_mul_pos_right (Nat.lt_of_lt_of_le (by decide) h1))
    (Nat.le_trans (Nat.le_mul_of_pos_right r (Nat.two_pow_pos n)) h2)
  exact Nat.le_antisymm (shift_le r n _ h1 b) (shift_le r _ n a h2)

theorem normShift_zero (r : Nat) (h1 : 128 ≤ r) (h2 : r ≤ 255) : normShift r = 0 :=
  normShift_eq r 0 (by rw [Nat.pow_zero, Nat.mul_one]; exact h1) (by rw [Nat.pow_zero, Nat.mul_one]; exact h2)

theorem normShift_double (r : Nat) (h1 : 1 ≤ r) (h2 : r < 128) : normShift r = normShift (2 * r) + 1 := by
  obtain ⟨a, b, _⟩ := normShift_spec (2 * r) (Nat.mul_pos (by decide) h1)
    (Nat.le_of_lt_succ (Nat.mul_lt_mul_of_pos_left h2 (by decide)))
  have e : r * 2 ^ (normShift (2 * r) + 1) = 2 * r * 2 ^ normShift (2 * r) := by
    rw [Nat.pow_succ', ← Nat.mul_assoc, Nat.mul_comm r 2]
  exact normShift_eq r _ (e ▸ a) (e ▸ b)

theorem renorm_inv (ci v r : Nat) (bc : Int) (h1 : 1 ≤ r) (h2 : r ≤ 255) (hb0 : 0 ≤ bc) (hb1 : bc ≤ 31) :
    Inv ⟨ci, v, r <<< normShift r, bc - (normShift r : Int)⟩ := by
  obtain ⟨a, b, c⟩ := normShift_spec r h1 h2
  exact ⟨Nat.shiftLeft_eq .. ▸ a, Nat.shiftLeft_eq .. ▸ b,
    Int.le_trans (by decide : (-8 : Int) ≤ 0 - 7) (Int.sub_le_sub hb0 (Int.ofNat_le.mpr c)),
    Int.le_trans (Int.sub_le_self bc (Int.natCast_nonneg _)) hb1⟩

theorem decide_inv (s : State) (p : Nat) (hp : p < 256) (hs : Ready s) :
    Inv (decide s (splitOf s.range p) (s.range - splitOf s.range p)).2 ∧
    (decide s (splitOf s.range p) (s.range - splitOf s.range p)).2.chunkIndex = s.chunkIndex := by
  obtain ⟨r1, r2, hb0, hb1⟩ := hs
  obtain ⟨a, b⟩ := splitOf_bounds _ p r1 r2 hp
  unfold decide
  split
  · exact ⟨renorm_inv _ _ _ _ (Nat.sub_pos_of_lt b) (Nat.le_trans (Nat.sub_le _ _) r2) hb0 hb1, rfl⟩
  · exact ⟨renorm_inv _ _ _ _ a (Nat.le_trans (Nat.le_of_lt b) r2) hb0 hb1, rfl⟩

/-- a reload of 8 or 32 bits, done when `bit_count` is negative, makes it a shift amount -/
theorem reload_bits (b n : Int) (c : -8 ≤ b) (hb : b < 0) (h8 : 8 ≤ n) (h32 : n ≤ 32) :
    -8 ≤ b + n ∧ 0 ≤ b + n ∧ b + n ≤ 31 := by
  omega

theorem fastLoad_ready (chunks : Array Nat) (s : State) (h : Inv s) : Ready (fastLoad chunks s) := by
  obtain ⟨a, b, c, d⟩ := h
  unfold fastLoad
  split
  · rename_i hb
    exact ⟨a, b, (reload_bits _ 32 c hb (by decide) (by decide)).2⟩
  · rename_i hb
    exact ⟨a, b, Int.not_lt.mp hb, d⟩

theorem fastReadBit_inv (chunks : Array Nat) (s : State) (p : Nat) (hp : p < 256) (h : Inv s) :
    Inv (fastReadBit chunks s p).2 ∧
    (fastReadBit chunks s p).2.chunkIndex = if s.bitCount < 0 then s.chunkIndex + 1 else s.chunkIndex := by
  obtain ⟨i1, i2⟩ := decide_inv _ p hp (fastLoad_ready chunks s h)
  refine ⟨i1, i2.trans ?_⟩
  unfold fastLoad; split <;> rfl

theorem fastReadFlag_eq (chunks : Array Nat) (s : State) (h : Inv s) :
    fastReadFlag chunks s = fastReadBit chunks s 128 := by
  unfold fastReadFlag fastReadBit
  obtain ⟨e1, e2⟩ := flag_split (fastLoad chunks s).range (Nat.le_trans (by decide) (fastLoad_ready chunks s h).1)
  rw [e1, e2]

def withState (d : Dec) (s : State) : Dec := { d with state := s }

@[simp] theorem withState_chunks (d : Dec) (s : State) : (withState d s).chunks = d.chunks := rfl
@[simp] theorem withState_state (d : Dec) (s : State) : (withState d s).state = s := rfl
@[simp] theorem withState_withState (d : Dec) (s t : State) : withState (withState d s) t = withState d t := rfl

/-- A speculative read from register state `s` with result `f` is sound for the cold result `c`:
    it keeps `Inv`, never moves `chunk_index` back, and if it would be committed
    (`chunk_index ≤ chunks.len()` afterwards) then `c`, the cold read from the same state, has
    the same value and state. Reads compose (`pure`, `bind`), so each compound read is sound
    because its bit reads are. -/
def Sound (d : Dec) (s : State) (f : α × State) (c : α × Dec) : Prop :=
  Inv f.2 ∧ s.chunkIndex ≤ f.2.chunkIndex ∧ (f.2.chunkIndex ≤ d.chunks.size → c = (f.1, withState d f.2))

theorem Sound.pure {d : Dec} {s : State} (h : Inv s) (v : α) : Sound d s (v, s) (v, withState d s) :=
  ⟨h, Nat.le_refl _, fun _ => rfl⟩

/-- the middle state is committed if the last one is, since the index only grows -/
theorem Sound.bind {d : Dec} {s : State} {f : α × State} {c : α × Dec} {g : β × State} (k : α × Dec → β × Dec)
    (hf : Sound d s f c) (hg : Inv f.2 → Sound d f.2 g (k (f.1, withState d f.2))) : Sound d s g (k c) := by
  obtain ⟨i1, m1, a1⟩ := hf
  obtain ⟨i2, m2, a2⟩ := hg i1
  exact ⟨i2, Nat.le_trans m1 m2, fun hc => by rw [a1 (Nat.le_trans m2 hc)]; exact a2 hc⟩

theorem sound_bit (d : Dec) (s : State) (p : Nat) (hp : p < 256) (h : Inv s) :
    Sound d s (fastReadBit d.chunks s p) (coldReadBit (withState d s) p) := by
  obtain ⟨i1, i2⟩ := fastReadBit_inv d.chunks s p hp h
  unfold coldReadBit
  by_cases hb : s.bitCount < 0
  · rw [if_pos hb] at i2
    refine ⟨i1, i2 ▸ Nat.le_succ _, fun hc => ?_⟩
    rw [i2] at hc
    unfold fastReadBit fastLoad
    simp only [withState_state, withState_chunks, if_pos hb, Array.getElem?_eq_getElem (Nat.lt_of_succ_le hc)]
    rfl
  · rw [if_neg hb] at i2
    refine ⟨i1, Nat.le_of_eq i2.symm, fun _ => ?_⟩
    unfold fastReadBit fastLoad
    rw [if_neg (show ¬ (withState d s).state.bitCount < 0 from hb), if_neg hb]
    rfl

theorem sound_flag (d : Dec) (s : State) (h : Inv s) :
    Sound d s (fastReadFlag d.chunks s) (coldReadBit (withState d s) 128) := by
  rw [fastReadFlag_eq d.chunks s h]; exact sound_bit d s 128 (by decide) h

theorem sound_literal (d : Dec) (n : Nat) (s : State) (v : Nat) (h : Inv s) :
    Sound d s (fastReadLiteral d.chunks n s v) (coldReadLiteral n (withState d s) v) := by
  induction n generalizing s v with
  | zero => exact Sound.pure h v
  | succ n ih =>
    unfold fastReadLiteral coldReadLiteral
    exact (sound_flag d s h).bind (fun c => coldReadLiteral n c.2 (u8 (v <<< 1) + c.1.toNat)) fun h1 => ih _ _ h1

theorem sound_signed (d : Dec) (s : State) (n : Nat) (h : Inv s) :
    Sound d s (fastReadSigned d.chunks s n) (coldReadSigned (withState d s) n) := by
  unfold fastReadSigned coldReadSigned
  dsimp only
  refine (sound_flag d s h).bind (fun f => if !f.1 then (0, f.2) else
    (signedOf (coldReadBit (coldReadLiteral n f.2 0).2 128).1 (coldReadLiteral n f.2 0).1,
      (coldReadBit (coldReadLiteral n f.2 0).2 128).2)) fun h1 => ?_
  generalize fastReadFlag d.chunks s = f at h1 ⊢
  obtain ⟨b, s1⟩ := f
  cases b
  · exact Sound.pure h1 0
  · exact (sound_literal d n s1 0 h1).bind (fun m => (signedOf (coldReadBit m.2 128).1 m.1, (coldReadBit m.2 128).2))
      fun h2 => (sound_flag d _ h2).bind (fun g => (signedOf g.1 _, g.2)) fun h3 => Sound.pure h3 _

theorem sound_tree (tree : Array Node) (hall : ∀ (k : Nat) (nd : Node), tree[k]? = some nd → nd.prob < 256)
    (fuel : Nat) (d : Dec) (s : State) (index : Nat) (node : Node)
    (hnode : tree[index]? = some node) (h : Inv s) (r : Nat × State)
    (hres : fastReadTree d.chunks tree fuel s node = some r) :
    s.chunkIndex ≤ r.2.chunkIndex ∧
    (r.2.chunkIndex ≤ d.chunks.size → coldReadTree tree fuel (withState d s) index = some (r.1, withState d r.2)) := by
  induction fuel generalizing s index node with
  | zero => simp [fastReadTree] at hres
  | succ fuel ih =>
    obtain ⟨i1, m1, a1⟩ := sound_bit d s node.prob (hall index node hnode) h
    unfold fastReadTree at hres
    unfold coldReadTree
    rw [hnode]; simp only at hres ⊢
    split at hres
    · rename_i hnx
      simp only [Option.some.injEq] at hres; subst hres
      refine ⟨m1, fun hc => ?_⟩
      rw [a1 hc, if_neg (Nat.not_lt.mpr (Array.getElem?_eq_none_iff.mp hnx))]
    · rename_i nx hnx
      obtain ⟨m2, a2⟩ := ih _ _ nx hnx i1 hres
      refine ⟨Nat.le_trans m1 m2, fun hc => ?_⟩
      rw [a1 (Nat.le_trans m2 hc), if_pos (Array.getElem?_eq_some_iff.mp hnx).1]
      exact a2 hc

theorem readBool_cold (d : Dec) (p : Nat) (hp : p < 256) (h : Inv d.state) : readBool d p = coldReadBit d p := by
  unfold readBool commitIfValid
  by_cases hc : (fastReadBit d.chunks d.state p).2.chunkIndex ≤ d.chunks.size
  · simp only [hc, if_true]; exact ((sound_bit d d.state p hp h).2.2 hc).symm
  · simp only [hc, if_false]

theorem readFlag_cold (d : Dec) (h : Inv d.state) : readFlag d = coldReadBit d 128 := by
  rw [← readBool_cold d 128 (by decide) h]; unfold readFlag readBool; rw [fastReadFlag_eq d.chunks d.state h]

theorem readLiteral_cold (d : Dec) (n : Nat) (h : Inv d.state) : readLiteral d n = coldReadLiteral n d 0 := by
  unfold readLiteral commitIfValid
  by_cases hc : (fastReadLiteral d.chunks n d.state 0).2.chunkIndex ≤ d.chunks.size
  · simp only [hc, if_true]; exact ((sound_literal d n d.state 0 h).2.2 hc).symm
  · simp only [hc, if_false]

theorem readSigned_cold (d : Dec) (n : Nat) (h : Inv d.state) : readOptionalSigned d n = coldReadSigned d n := by
  unfold readOptionalSigned commitIfValid
  by_cases hc : (fastReadSigned d.chunks d.state n).2.chunkIndex ≤ d.chunks.size
  · simp only [hc, if_true]; exact ((sound_signed d d.state n h).2.2 hc).symm
  · simp only [hc, if_false]

/-- `read_with_tree_with_first_node` from any start node, provided the speculative walk finishes
    (`read_with_tree` is the case `start = 0`) -/
theorem readTreeFrom_cold (d : Dec) (tree : Array Node)
    (hall : ∀ (k : Nat) (nd : Node), tree[k]? = some nd → nd.prob < 256) (h : Inv d.state)
    (start : Nat) (first : Node) (hfirst : tree[start]? = some first) (r : Nat × State)
    (hfast : fastReadTree d.chunks tree (tree.size + 1) d.state first = some r) :
    Vp8Coef.readTreeFrom d tree start = coldReadTree tree (tree.size + 1) d start := by
  unfold Vp8Coef.readTreeFrom commitIfValid
  rw [hfirst]; simp only [hfast]
  by_cases hc : r.2.chunkIndex ≤ d.chunks.size
  · simp only [hc, if_true]
    exact ((sound_tree tree hall (tree.size + 1) d d.state start first hfirst h r hfast).2 hc).symm
  · simp only [hc, if_false]

/-- holds initially, preserved by every read. `final_bytes_remaining` is `EOF` or in `-1..=3`
    (at most three trailing bytes, then `-1` once the one pad byte is consumed); the decoder only
    becomes past-EOF when a reload finds no chunk left, so then `bit_count < 0` and
    `chunk_index = chunks.len()`. -/
def WF (d : Dec) : Prop :=
  Inv d.state ∧ d.state.chunkIndex ≤ d.chunks.size ∧
  (d.finalBytesRemaining = EOF → d.state.bitCount < 0 ∧ d.state.chunkIndex = d.chunks.size) ∧
  (d.finalBytesRemaining = EOF ∨ (-1 ≤ d.finalBytesRemaining ∧ d.finalBytesRemaining ≤ 3))

theorem isPastEof_iff (d : Dec) : isPastEof d = true ↔ d.finalBytesRemaining = EOF := by
  unfold isPastEof; exact beq_iff_eq

/-- the loading step of `cold_read_bit`: the next chunk, else a trailing byte, else the one pad
    byte, else nothing (and the decoder is past its end) -/
def load (d : Dec) : Dec :=
  if d.state.bitCount < 0 then
    match d.chunks[d.state.chunkIndex]? with
    | some v => { d with state := { d.state with chunkIndex := d.state.chunkIndex + 1,
                                                   value := u64 (d.state.value <<< 32) ||| v,
                                                   bitCount := d.state.bitCount + 32 } }
    | none => loadFromFinalBytes d
  else d

theorem coldReadBit_eq (d : Dec) (p : Nat) (h : WF d) :
    coldReadBit d p = if isPastEof (load d) then (false, load d) else coldDecide (load d) p := by
  obtain ⟨_, _, heof, _⟩ := h
  unfold coldReadBit load
  by_cases hb : d.state.bitCount < 0
  · simp only [if_pos hb]
    cases hch : d.chunks[d.state.chunkIndex]? with
    | none => rfl
    | some v =>
      have hne : isPastEof d = false := by
        cases he : isPastEof d
        · rfl
        · exact absurd (heof ((isPastEof_iff d).mp he)).2 (Nat.ne_of_lt (Array.getElem?_eq_some_iff.mp hch).1)
      show coldDecide _ p = if isPastEof d = true then _ else coldDecide _ p
      rw [hne]; rfl
  · have hne : ¬ isPastEof d = true := fun he => hb (heof ((isPastEof_iff _).mp he)).1
    simp only [if_neg hb, if_neg hne]

theorem loadFromFinalBytes_cases (d : Dec) :
    (loadFromFinalBytes d).chunks = d.chunks ∧ (loadFromFinalBytes d).state.chunkIndex = d.state.chunkIndex ∧
    (loadFromFinalBytes d).state.range = d.state.range ∧
    ((0 ≤ d.finalBytesRemaining ∧ (loadFromFinalBytes d).finalBytesRemaining = d.finalBytesRemaining - 1 ∧
        (loadFromFinalBytes d).state.bitCount = d.state.bitCount + 8) ∨
     (d.finalBytesRemaining < 0 ∧ loadFromFinalBytes d = { d with finalBytesRemaining := EOF })) := by
  unfold loadFromFinalBytes
  by_cases h1 : d.finalBytesRemaining ≥ 1
  · rw [if_pos h1]; exact ⟨rfl, rfl, rfl, Or.inl ⟨Int.le_trans (by decide) h1, rfl, rfl⟩⟩
  · by_cases h0 : d.finalBytesRemaining = 0
    · rw [if_neg h1, if_pos h0]; exact ⟨rfl, rfl, rfl, Or.inl ⟨Int.le_of_eq h0.symm, by rw [h0]; rfl, rfl⟩⟩
    · rw [if_neg h1, if_neg h0]; exact ⟨rfl, rfl, rfl, Or.inr ⟨by omega, rfl⟩⟩

/-- consuming one of the trailing bytes (or the pad byte): the count stays in `-1..=3` -/
theorem final_count (f f' : Int) (c1 : 0 ≤ f) (c2 : f' = f - 1) (h : f = EOF ∨ (-1 ≤ f ∧ f ≤ 3)) :
    f' ≠ EOF ∧ -1 ≤ f' ∧ f' ≤ 3 := by
  unfold EOF at *; omega

theorem load_wf (d : Dec) (h : WF d) : WF (load d) ∧ (isPastEof (load d) = false → 0 ≤ (load d).state.bitCount) := by
  obtain ⟨⟨a, b, c, e⟩, hidx, heof, hfb⟩ := h
  unfold load
  by_cases hb : d.state.bitCount < 0
  · rw [if_pos hb]
    cases hch : d.chunks[d.state.chunkIndex]? with
    | some v =>
      have hlt := (Array.getElem?_eq_some_iff.mp hch).1
      obtain ⟨n8, n0, n1⟩ := reload_bits _ 32 c hb (by decide) (by decide)
      exact ⟨⟨⟨a, b, n8, n1⟩, Nat.succ_le_of_lt hlt, fun he => absurd (heof he).2 (Nat.ne_of_lt hlt), hfb⟩, fun _ => n0⟩
    | none =>
      show WF (loadFromFinalBytes d) ∧
        (isPastEof (loadFromFinalBytes d) = false → 0 ≤ (loadFromFinalBytes d).state.bitCount)
      obtain ⟨e1, e2, e3, ⟨c1, c2, c3⟩ | ⟨c1, c2⟩⟩ := loadFromFinalBytes_cases d
      · obtain ⟨n8, n0, n1⟩ := reload_bits _ 8 c hb (by decide) (by decide)
        obtain ⟨f0, f1⟩ := final_count _ _ c1 c2 hfb
        exact ⟨⟨⟨e3 ▸ a, e3 ▸ b, c3 ▸ n8, c3 ▸ n1⟩, by rw [e1, e2]; exact hidx, fun he => absurd he f0, Or.inr f1⟩,
          fun _ => c3 ▸ n0⟩
      · rw [c2]
        exact ⟨⟨⟨a, b, c, e⟩, hidx, fun _ => ⟨hb, Nat.le_antisymm hidx (Array.getElem?_eq_none_iff.mp hch)⟩, Or.inl rfl⟩,
          fun he => by cases he⟩
  · rw [if_neg hb]
    exact ⟨⟨⟨a, b, c, e⟩, hidx, heof, hfb⟩, fun _ => Int.not_lt.mp hb⟩

theorem coldDecide_wf (d : Dec) (p : Nat) (hp : p < 256) (h : WF d) (hne : isPastEof d = false)
    (h0 : 0 ≤ d.state.bitCount) : WF (coldDecide d p).2 := by
  obtain ⟨⟨r1, r2, _, r4⟩, hidx, _, hfb⟩ := h
  have hne' : d.finalBytesRemaining ≠ EOF := fun he => by rw [(isPastEof_iff d).mpr he] at hne; cases hne
  obtain ⟨i1, i2⟩ := decide_inv d.state p hp ⟨r1, r2, h0, r4⟩
  exact ⟨i1, i2 ▸ hidx, fun he => absurd he hne', hfb⟩

theorem coldReadBit_wf (d : Dec) (p : Nat) (hp : p < 256) (h : WF d) : WF (coldReadBit d p).2 := by
  obtain ⟨hw, h0⟩ := load_wf d h
  rw [coldReadBit_eq d p h]
  cases he : isPastEof (load d)
  · exact coldDecide_wf _ p hp hw he (h0 he)
  · exact hw

/-- exhaustion is sticky: once `check` would fail, every later read returns the default value
    and leaves the decoder untouched -/
theorem eof_sticky (d : Dec) (p : Nat) (h : WF d) (he : d.finalBytesRemaining = EOF) :
    coldReadBit d p = (false, d) := by
  have hl : load d = d := by
    obtain ⟨hb, hi⟩ := h.2.2.1 he
    unfold load
    rw [if_pos hb, Array.getElem?_eq_none (Nat.le_of_eq hi.symm)]
    obtain ⟨_, _, _, ⟨c1, _⟩ | ⟨_, c2⟩⟩ := loadFromFinalBytes_cases d
    · rw [he] at c1; cases c1
    · rw [c2, ← he]
  rw [coldReadBit_eq d p h, hl, if_pos ((isPastEof_iff d).mpr he)]

theorem splitChunks_spec (l : List Nat) (acc : Array Nat) :
    (splitChunks l acc).1.size = acc.size + l.length / 4 ∧
    (splitChunks l acc).2.length = l.length % 4 ∧
    (∀ i, i < acc.size → (splitChunks l acc).1[i]? = acc[i]?) ∧
    (∀ j, j < l.length / 4 → (splitChunks l acc).1[acc.size + j]? =
      some (be32 (l.getD (4 * j) 0) (l.getD (4 * j + 1) 0) (l.getD (4 * j + 2) 0) (l.getD (4 * j + 3) 0))) ∧
    (∀ k, (splitChunks l acc).2.getD k 0 = l.getD (4 * (l.length / 4) + k) 0) := by
  fun_induction splitChunks l acc with
  | case1 b0 b1 b2 b3 rest acc ih =>
    obtain ⟨h1, h2, h3, h4, h5⟩ := ih
    have hl : (b0 :: b1 :: b2 :: b3 :: rest).length = rest.length + 4 := rfl
    have shift : ∀ n, (b0 :: b1 :: b2 :: b3 :: rest).getD (n + 4) 0 = rest.getD n 0 := fun _ => rfl
    have hdiv : (rest.length + 4) / 4 = rest.length / 4 + 1 := Nat.add_div_right _ (by decide)
    rw [Array.size_push] at h1 h3 h4
    refine ⟨?_, ?_, ?_, ?_, ?_⟩
    · rw [h1, hl, hdiv, Nat.add_assoc, Nat.add_comm 1]
    · rw [h2, hl, Nat.add_mod_right]
    · intro i hi
      rw [h3 i (Nat.lt_succ_of_lt hi), Array.getElem?_push_lt hi, Array.getElem?_eq_getElem hi]
    · intro j hj
      rw [hl, hdiv] at hj
      cases j with
      | zero => rw [Nat.add_zero, h3 acc.size (Nat.lt_succ_self _), Array.getElem?_push_size]; rfl
      | succ j =>
        rw [← Nat.add_assoc, Nat.add_right_comm, h4 j (Nat.lt_of_succ_lt_succ hj),
          Nat.mul_succ, shift, Nat.add_right_comm _ 4 1, shift, Nat.add_right_comm _ 4 2, shift,
          Nat.add_right_comm _ 4 3, shift]
    · intro k
      rw [h5 k, hl, hdiv, Nat.mul_succ, Nat.add_right_comm _ 4 k, shift]
  | case2 tail acc hno =>
    have hlen : tail.length < 4 := by
      match tail, hno with
      | [], _ => exact (by decide : 0 < 4)
      | [_], _ => exact (by decide : 1 < 4)
      | [_, _], _ => exact (by decide : 2 < 4)
      | [_, _, _], _ => exact (by decide : 3 < 4)
      | b0 :: b1 :: b2 :: b3 :: rest, hno => exact absurd rfl (hno b0 b1 b2 b3 rest)
    have h0 : tail.length / 4 = 0 := Nat.div_eq_of_lt hlen
    refine ⟨by rw [h0]; rfl, (Nat.mod_eq_of_lt hlen).symm, fun i _ => rfl, fun j hj => ?_, fun k => ?_⟩
    · rw [h0] at hj; cases hj
    · rw [h0, Nat.mul_zero, Nat.zero_add]

theorem init_wf (data : List Nat) : WF (init data) := by
  have hl : (splitChunks data #[]).2.length ≤ 3 :=
    Nat.le_of_lt_succ ((splitChunks_spec data #[]).2.1 ▸ Nat.mod_lt _ (by decide))
  have hi : Inv initState := ⟨by decide, by decide, by decide, by decide⟩
  refine ⟨hi, Nat.zero_le _, fun h => ?_,
    Or.inr ⟨Int.le_trans (by decide) (Int.natCast_nonneg _), Int.ofNat_le.mpr hl⟩⟩
  exact absurd (h ▸ Int.natCast_nonneg (splitChunks data #[]).2.length : (0 : Int) ≤ EOF) (by decide)

/-- where a branch of the cold walk leads: on to another node, or out with a leaf value -/
def coldNext (tree : Array Node) (fuel : Nat) (d : Dec) (t : Nat) : Option (Nat × Dec) :=
  if t < tree.size then coldReadTree tree fuel d t else some (valueFromBranch t, d)

theorem cold_step (tree : Array Node) (fuel : Nat) (d : Dec) (k l r q : Nat) (h : tree[k]? = some ⟨l, r, q⟩) :
    coldReadTree tree (fuel + 1) d k =
      if (coldReadBit d q).1 then coldNext tree fuel (coldReadBit d q).2 r
      else coldNext tree fuel (coldReadBit d q).2 l := by
  conv => lhs; unfold coldReadTree
  rw [h]
  simp only
  cases (coldReadBit d q).1 <;> rfl

end Arith
