import WebpVerif.Lemmas.LLoop

/-!
The encoder's token stream (a pixel, then the length of the run of identical pixels after it),
read as the operations the decoder's symbols decode to (a literal, then a backward reference
with distance 1), is decoded by the pixel loop of `decode_image_data` to exactly the expanded
pixel sequence.  Links `Enc.tokenize` (C04) with `LLoop.decode` (C01).
-/
namespace EncLoop
open LLoop ArrayWrites

/-- tokens `(pixel, run)` as decoder operations -/
def opsOf : List (Nat × Nat) → List Op
  | [] => []
  | (v, run) :: rest => .lit v :: (if run = 0 then opsOf rest else .back run 1 :: opsOf rest)

/-- the pixel sequence the tokens stand for -/
def expandV : List (Nat × Nat) → List Nat
  | [] => []
  | (v, run) :: rest => v :: (List.replicate run v ++ expandV rest)

/-- the configuration the encoder produces: one group, no meta image, no colour cache -/
def cfgEnc (w h : Nat) : Cfg :=
  { width := w, height := h, bits := 0, mask := 0, xsize := 0, image := #[], single := #[none], cacheBits := 0 }

theorem insert_nocache (c : Cfg) (h0 : c.cacheBits = 0) (cache : Array Nat) (v : Nat) : LLoop.insert c cache v = cache := by
  unfold LLoop.insert; rw [if_pos h0]

theorem specCopy_nocache (c : Cfg) (h0 : c.cacheBits = 0) (d cache : Array Nat) (index dist : Nat) :
    ∀ len, (specCopy c d cache index dist len).2 = cache := by
  intro len
  induction len with
  | zero => rfl
  | succ len ih =>
    show LLoop.insert c (specCopy c d cache index dist len).2 _ = cache
    rw [insert_nocache c h0, ih]

theorem getD_cons_run (v run : Nat) (l : List Nat) (k : Nat) :
    (v :: (List.replicate run v ++ l)).getD k 0 = if k < run + 1 then v else l.getD (k - (run + 1)) 0 := by
  rw [List.getD_eq_getElem?_getD, ← List.cons_append, ← List.replicate_succ, List.getElem?_append, List.length_replicate,
    List.getElem?_replicate]
  by_cases h : k < run + 1
  · rw [if_pos h, if_pos h, if_pos h]; rfl
  · rw [if_neg h, if_neg h, List.getD_eq_getElem?_getD]

theorem specRun_tokens (c : Cfg) (h0 : c.cacheBits = 0) (cache : Array Nat) :
    ∀ (toks : List (Nat × Nat)) (d : Array Nat) (index : Nat), d.size = c.width * c.height →
      index + (expandV toks).length = c.width * c.height →
      ∃ r, specRun c (opsOf toks) d index cache = .ok r ∧ r.size = c.width * c.height ∧
        (∀ p, p < index → r[p]! = d[p]!) ∧ ∀ k, k < (expandV toks).length → r[index + k]! = (expandV toks).getD k 0 := by
  intro toks
  induction toks with
  | nil =>
    intro d index hd hlen
    simp only [expandV, List.length_nil, Nat.add_zero] at hlen
    refine ⟨d, ?_, hd, fun p _ => rfl, fun k hk => absurd hk (Nat.not_lt_zero k)⟩
    rw [opsOf, specRun, if_neg (hlen ▸ Nat.lt_irrefl _)]
  | cons t rest ih =>
    obtain ⟨v, run⟩ := t
    intro d index hd hlen
    simp only [expandV, List.length_cons, List.length_append, List.length_replicate] at hlen ⊢
    -- a token is a literal followed by a copy of `run` pixels from distance 1 (no operation if `run = 0`):
    -- together a fill of `run + 1` pixels
    have hlt : index < c.width * c.height := hlen ▸ Nat.lt_add_of_pos_right (Nat.succ_pos _)
    have hstep : specRun c (opsOf ((v, run) :: rest)) d index cache =
        specRun c (opsOf rest) (fill d index (run + 1) v) (index + (run + 1)) cache := by
      rw [opsOf, specRun_cons c _ _ d index cache hlt, ← fill_cons]
      simp only
      rw [insert_nocache c h0]
      by_cases hrun : run = 0
      · subst hrun; rw [if_pos rfl]; rfl
      · rw [if_neg hrun, specRun_cons c _ _ _ (index + 1) cache (by omega)]
        simp only
        rw [if_neg (by omega), specCopy_nocache c h0, specCopy_data,
          slowCopy_one _ _ _ (by rw [Array.size_setIfInBounds]; omega), Nat.add_sub_cancel, get_set_self _ _ _ (hd ▸ hlt), Nat.add_assoc, Nat.add_comm 1 run]
    obtain ⟨f1, f2⟩ := fill_spec d index v (run + 1)
    obtain ⟨r, e1, e2, e3, e4⟩ := ih _ (index + (run + 1)) (f1.trans hd) (by omega)
    refine ⟨r, hstep.trans e1, e2, fun p hp => ?_, fun k hk => ?_⟩
    · rw [e3 p (Nat.lt_add_right _ hp), f2 p, if_neg fun h => Nat.not_le_of_lt hp h.1]
    · rw [getD_cons_run]
      by_cases hkr : k < run + 1
      · rw [if_pos hkr, e3 _ (Nat.add_lt_add_left hkr _), f2, if_pos ⟨Nat.le_add_right _ _, Nat.add_lt_add_left hkr _, by omega⟩]
      · rw [if_neg hkr, show index + k = index + (run + 1) + (k - (run + 1)) by omega]
        exact e4 _ (by omega)

def WfOp : Op → Prop
  | .back len dist => 1 ≤ len ∧ 1 ≤ dist
  | _ => True

theorem cons_of_wf (c : Cfg) (hb : c.bits = 0) (hs : c.single = #[none]) :
    ∀ fuel index nbs0 (ops : List Op), (∀ op ∈ ops, WfOp op) → cons c fuel index nbs0 ops = true := by
  intro fuel
  induction fuel with
  | zero => intro _ _ _ _; rfl
  | succ fuel ih =>
    intro index nbs0 ops hwf
    have hsingle : ∀ x y, (c.single[huffIndex c x y]?).join = none := by
      intro x y
      unfold huffIndex; rw [if_pos hb, hs]; rfl
    have hops : ∀ nbs, consOps c (cons c fuel) index nbs ops = true := by
      intro nbs
      cases ops with
      | nil => rfl
      | cons op rest =>
        have hrest : ∀ o ∈ rest, WfOp o := fun o ho => hwf o (List.mem_cons_of_mem _ ho)
        cases op with
        | lit v => exact ih _ _ _ hrest
        | cache k => exact ih _ _ _ hrest
        | back len dist =>
          have hw := hwf (.back len dist) (List.mem_cons_self)
          simp only [WfOp] at hw
          unfold consOps
          simp only [hw.1, hw.2, decide_true, Bool.true_and]
          split
          · rfl
          · exact ih _ _ _ hrest
    rw [cons]
    simp only
    split
    · split
      · rw [hsingle]; exact hops _
      · exact hops _
    · rfl

theorem opsOf_wf : ∀ (toks : List (Nat × Nat)), ∀ op ∈ opsOf toks, WfOp op := by
  intro toks
  induction toks with
  | nil => intro op h; cases h
  | cons t rest ih =>
    obtain ⟨v, run⟩ := t
    intro op h
    rw [opsOf] at h
    rcases List.mem_cons.mp h with rfl | h
    · trivial
    · by_cases hrun : run = 0
      · rw [if_pos hrun] at h; exact ih op h
      · rw [if_neg hrun] at h
        rcases List.mem_cons.mp h with rfl | h
        · exact ⟨by omega, Nat.le_refl _⟩
        · exact ih op h

theorem decode_tokens (w h : Nat) (toks : List (Nat × Nat)) (init : Array Nat)
    (hinit : init.size = w * h) (hlen : (expandV toks).length = w * h) :
    decode (cfgEnc w h) init (opsOf toks) = .ok (expandV toks).toArray := by
  rw [decode_refines_any (cfgEnc w h) init init _ hinit hinit (cons_of_wf _ rfl rfl _ _ _ _ (opsOf_wf toks))]
  unfold specDecode
  obtain ⟨r, e1, e2, _, e4⟩ := specRun_tokens (cfgEnc w h) rfl (Array.replicate (if (cfgEnc w h).cacheBits = 0 then 0 else 2 ^ (cfgEnc w h).cacheBits) 0)
    toks init 0 hinit ((Nat.zero_add _).trans hlen)
  rw [e1]
  congr 1
  apply arr_ext
  · rw [e2, List.size_toArray, hlen]; rfl
  · intro p hp
    have hp' : p < (expandV toks).length := hlen ▸ e2 ▸ hp
    have := e4 p hp'
    rw [Nat.zero_add] at this
    rw [this, List.getD_eq_getElem?_getD, List.getElem?_eq_getElem hp']
    simp [hp']

end EncLoop
