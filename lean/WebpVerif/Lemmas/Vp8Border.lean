import WebpVerif.Model.Vp8Border
import WebpVerif.Lemmas.MbGrid

/-!
The luma border bookkeeping (`Vp8Border.run`) feeds every macroblock the border pixels RFC 6386
defines from the reconstructed frame.
-/
namespace Vp8Border
open MbGrid

/-- before macroblock (mbx, mby): `top` holds the bottom pixel row of this macroblock row as far as
    it is done and of the row above from there on; `left` the right column of the macroblock to the
    left, below the pixel above-left of the macroblock to come -/
structure FInv (f : Frame) (mbx mby : Nat) (s : St) : Prop where
  topDone : ∀ j, j < 16 * mbx → s.top j = P f j (16 * mby + 15)
  topOld : ∀ j, 16 * mbx ≤ j → j < 16 * f.W → s.top j = if mby = 0 then 127 else P f j (16 * mby - 1)
  leftCol : ∀ i, i < 16 → s.left (i + 1) = if mbx = 0 then 129 else P f (16 * mbx - 1) (16 * mby + i)
  corner : s.left 0 = if mbx = 0 then 129 else if mby = 0 then 127 else P f (16 * mbx - 1) (16 * mby - 1)
  out : ∀ b ∈ s.out, Good f b

theorem P_in (f : Frame) (mbx mby x y : Nat) (hx : x < 16) (hy : y < 16) :
    P f (16 * mbx + x) (16 * mby + y) = f.R mbx mby x y := by
  unfold P
  rw [mul_add_div_lt mbx hx, mul_add_div_lt mby hy, Nat.mul_add_mod, Nat.mul_add_mod,
    Nat.mod_eq_of_lt hx, Nat.mod_eq_of_lt hy]

theorem mbStep_inv (f : Frame) (mbx mby : Nat) (hx : mbx < f.W) (s : St) (inv : FInv f mbx mby s) :
    FInv f (mbx + 1) mby (mbStep f mbx mby s) := by
  -- the row above this macroblock and its right neighbour, as `border` reads it
  have rowAbove : ∀ j, 16 * mbx ≤ j → j < 16 * f.W →
      (if mby = 0 then 127 else s.top j) = if mby = 0 then 127 else P f j (16 * mby - 1) := fun j h1 h2 =>
    ite_congr rfl (fun _ => rfl) (fun hm => by rw [inv.topOld j h1 h2, if_neg hm])
  unfold mbStep border
  refine { topDone := fun j hj => ?_, topOld := fun j h1 h2 => ?_, leftCol := fun i hi => ?_, corner := ?_, out := ?_ }
  · show (if _ then _ else s.top j) = _
    by_cases hin : 16 * mbx ≤ j ∧ j < 16 * mbx + 16
    · rw [if_pos hin, ← P_in f mbx mby (j - 16 * mbx) 15 (by omega) (by decide), Nat.add_sub_cancel' hin.1]
    · rw [if_neg hin]; exact inv.topDone j (by omega)
  · exact (if_neg (by omega)).trans (inv.topOld j (by omega) h2)
  · dsimp only
    rw [if_neg i.succ_ne_zero, if_pos (Nat.succ_lt_succ hi), if_neg mbx.succ_ne_zero, Nat.add_sub_cancel,
      ← P_in f mbx mby 15 i (by decide) hi, Nat.mul_succ, Nat.add_sub_assoc (by decide)]
  · dsimp only
    rw [if_pos rfl, if_neg mbx.succ_ne_zero, rowAbove _ (Nat.le_add_right _ _) (by omega), Nat.mul_succ, Nat.add_sub_assoc (by decide)]
  · intro b hb
    rcases List.mem_cons.mp hb with rfl | hb
    · refine ⟨?_, fun i hi => rowAbove _ (Nat.le_add_right _ _) (by omega), fun i hi => ?_, fun i hi => ?_⟩
      · show (if mby = 0 then 127 else if mbx = 0 then 129 else s.left 0) = specCorner f mbx mby
        exact ite_congr rfl (fun _ => rfl) (fun hm => ite_congr rfl (fun _ => rfl) (fun h0 => by
          rw [inv.corner, if_neg h0, if_neg hm]))
      · show (if mby = 0 then 127 else if mbx = f.W - 1 then s.top (16 * mbx + 15) else s.top (16 * mbx + 16 + i)) =
          specAboveRight f mbx mby i
        exact ite_congr rfl (fun _ => rfl) (fun hm => ite_congr rfl
          (fun _ => by rw [inv.topOld _ (Nat.le_add_right _ _) (by omega), if_neg hm])
          (fun _ => by rw [inv.topOld _ (by omega) (by omega), if_neg hm]))
      · show (if mbx = 0 then 129 else s.left (i + 1)) = specLeft f mbx mby i
        exact ite_congr rfl (fun _ => rfl) (fun h0 => by rw [inv.leftCol i hi, if_neg h0])
    · exact inv.out b hb

theorem next_row (f : Frame) (mby : Nat) (s : St) (inv : FInv f f.W mby s) :
    FInv f 0 (mby + 1) { s with left := fun _ => 129 } :=
  { topDone := fun j hj => by omega,
    topOld := fun j _ h2 => by
      rw [if_neg mby.succ_ne_zero, Nat.mul_succ, Nat.add_sub_assoc (by decide)]
      exact inv.topDone j h2,
    leftCol := fun i _ => by rw [if_pos rfl],
    corner := by rw [if_pos rfl],
    out := inv.out }

theorem run_spec (f : Frame) : ∀ b ∈ run f, Good f b := fun b hb =>
  (scan_inv (Inv := FInv f) (reset := fun s : St => { s with left := fun _ => 129 })
    (fun _ _ _ => rfl) (fun _ _ _ _ => rfl) (fun _ _ => rfl) (fun _ _ _ => rfl)
    (fun mbx mby s h => mbStep_inv f mbx mby h s) (next_row f)
    f.H { top := fun _ => 127, left := fun _ => 129, out := [] }
    { topDone := fun j hj => by omega, topOld := fun j _ _ => by rw [if_pos rfl],
      leftCol := fun i _ => by rw [if_pos rfl], corner := by rw [if_pos rfl], out := fun _ hb => (List.not_mem_nil hb).elim }).out
    b (List.mem_reverse.mp hb)

end Vp8Border
