import WebpVerif.Lemmas.EncHuff
import WebpVerif.Lemmas.PrefixFree
import Mathlib.Tactic.Ring

/-!
Phase 4 of `build_huffman_tree` (`assignCodes`): the code words handed out are the canonical
ones of the lossless specification, bit-reversed, and the final value of `code` - what the
`assert_eq!(code, 2 << length_limit)` tests - is twice the scaled Kraft sum.
-/
namespace EncHuff

theorem toList_getD (a : Array Nat) (j : Nat) : a.toList.getD j 0 = a[j]! := by
  rw [List.getD_eq_getElem?_getD, Array.getElem?_toList, Array.getElem!_eq_getD, Array.getD_eq_getD_getElem?]
  rfl

/-- the inner loop over the symbols for one length, after `n` symbols -/
def innerLoop (lengths : Array Nat) (len : Nat) (acc : Array Nat × Nat) (n : Nat) : Array Nat × Nat :=
  (List.range n).foldl (fun (acc : Array Nat × Nat) i =>
    if lengths[i]! = len then (acc.1.setIfInBounds i (codeWord acc.2 len), acc.2 + 1) else acc) acc

theorem innerLoop_succ (lengths : Array Nat) (len : Nat) (acc : Array Nat × Nat) (n : Nat) :
    innerLoop lengths len acc (n + 1) =
      if lengths[n]! = len then ((innerLoop lengths len acc n).1.setIfInBounds n (codeWord (innerLoop lengths len acc n).2 len),
        (innerLoop lengths len acc n).2 + 1) else innerLoop lengths len acc n := by
  unfold innerLoop
  rw [List.range_succ, List.foldl_append, List.foldl_cons, List.foldl_nil]

theorem assignCodes_succ (lengths : Array Nat) (m : Nat) :
    assignCodes lengths (m + 1) = ((innerLoop lengths (m + 1) (assignCodes lengths m) lengths.size).1,
      (innerLoop lengths (m + 1) (assignCodes lengths m) lengths.size).2 * 2) := by
  unfold assignCodes
  rw [List.range_succ, List.foldl_append, List.foldl_cons, List.foldl_nil]
  rfl

theorem lt_succ_iff_of_ne {j n : Nat} (h : j ≠ n) : j < n + 1 ↔ j < n :=
  ⟨fun h' => Nat.lt_of_le_of_ne (Nat.le_of_lt_succ h') h, Nat.lt_succ_of_lt⟩

/-- the `k`-th symbol of length `len` gets the `k`-th code word from `acc.2` on -/
theorem inner_spec (lengths : Array Nat) (len : Nat) (acc : Array Nat × Nat) (hsz : acc.1.size = lengths.size) :
    ∀ n, n ≤ lengths.size →
      (innerLoop lengths len acc n).2 = acc.2 + Prefix.rank lengths.toList n len ∧
      (innerLoop lengths len acc n).1.size = lengths.size ∧
      ∀ j, (innerLoop lengths len acc n).1[j]! =
        if j < n ∧ lengths[j]! = len then codeWord (acc.2 + Prefix.rank lengths.toList j len) len else acc.1[j]! := by
  intro n
  induction n with
  | zero => intro _; exact ⟨rfl, hsz, fun j => (if_neg (fun h => absurd h.1 (Nat.not_lt_zero j))).symm⟩
  | succ n ih =>
    intro hn
    obtain ⟨i1, i2, i3⟩ := ih (Nat.le_of_succ_le hn)
    rw [innerLoop_succ, Prefix.rank_succ _ n len hn, toList_getD]
    generalize innerLoop lengths len acc n = r at i1 i2 i3 ⊢
    by_cases hl : lengths[n]! = len
    · rw [if_pos hl, if_pos hl]
      refine ⟨by rw [i1]; exact Nat.add_assoc _ _ _, by rw [Array.size_setIfInBounds]; exact i2, fun j => ?_⟩
      rw [ArrayWrites.get_set, i3 j, i2, i1]
      by_cases hjn : j = n
      · rw [hjn, if_pos ⟨rfl, hn⟩, if_pos ⟨Nat.lt_succ_self n, hl⟩]
      · rw [if_neg (fun h => hjn h.1)]; exact if_congr (and_congr_left' (lt_succ_iff_of_ne hjn).symm) rfl rfl
    · rw [if_neg hl, if_neg hl]
      refine ⟨i1, i2, fun j => ?_⟩
      rw [i3 j]
      by_cases hjn : j = n
      · rw [hjn, if_neg (fun h => hl h.2), if_neg (fun h => hl h.2)]
      · exact if_congr (and_congr_left' (lt_succ_iff_of_ne hjn).symm) rfl rfl

theorem assignCodes_spec (lengths : Array Nat) : ∀ limit,
    (assignCodes lengths limit).2 = Prefix.nextCode lengths.toList (limit + 1) ∧
    (assignCodes lengths limit).1.size = lengths.size ∧
    ∀ j, j < lengths.size → (assignCodes lengths limit).1[j]! =
      if 1 ≤ lengths[j]! ∧ lengths[j]! ≤ limit then
        codeWord (Prefix.nextCode lengths.toList lengths[j]! + Prefix.rank lengths.toList j lengths[j]!) lengths[j]!
      else 0 := by
  intro m
  induction m with
  | zero =>
    refine ⟨rfl, Array.size_replicate, fun j hj => ?_⟩
    rw [if_neg fun h => absurd (Nat.le_trans h.1 h.2) (Nat.not_succ_le_zero 0)]
    exact ArrayWrites.get_zeros _ j
  | succ m ih =>
    obtain ⟨o1, o2, o3⟩ := ih
    obtain ⟨i1, i2, i3⟩ := inner_spec lengths (m + 1) _ o2 lengths.size (Nat.le_refl _)
    rw [assignCodes_succ]
    refine ⟨?_, i2, fun j hj => ?_⟩
    · rw [Prefix.nextCode_succ, Prefix.blockEnd, if_neg (Nat.succ_ne_zero m), ← Prefix.rank_length, i1, o1]
      rfl
    · show (innerLoop lengths (m + 1) (assignCodes lengths m) lengths.size).1[j]! = _
      rw [i3 j, o1, o3 j hj]
      by_cases h : lengths[j]! = m + 1
      · rw [if_pos ⟨hj, h⟩, if_pos ⟨h ▸ Nat.succ_pos m, Nat.le_of_eq h⟩, h]
      · rw [if_neg (fun hh => h hh.2)]; exact if_congr (and_congr_right' ⟨Nat.le_succ_of_le, fun h' => Nat.le_of_lt_succ (Nat.lt_of_le_of_ne h' h)⟩) rfl rfl

/-- scaled Kraft sum of the lengths in `1..L` -/
def kk (ls : List Nat) (L : Nat) : Nat := ((ls.filter (fun l => 1 ≤ l ∧ l ≤ L)).map (fun l => 2 ^ (L - l))).sum

theorem kk_cons (x : Nat) (ls : List Nat) (L : Nat) :
    kk (x :: ls) L = (if 1 ≤ x ∧ x ≤ L then 2 ^ (L - x) else 0) + kk ls L := by
  unfold kk
  rw [List.filter_cons]
  by_cases h : 1 ≤ x ∧ x ≤ L
  · rw [if_pos (decide_eq_true h), if_pos h, List.map_cons, List.sum_cons]
  · rw [if_neg fun hd => h (of_decide_eq_true hd), if_neg h, Nat.zero_add]

theorem kk_succ (ls : List Nat) (L : Nat) : kk ls (L + 1) = 2 * kk ls L + Prefix.blCount ls (L + 1) := by
  induction ls with
  | nil => rfl
  | cons x ls ih =>
    have hb : Prefix.blCount (x :: ls) (L + 1) = (if x = L + 1 then 1 else 0) + Prefix.blCount ls (L + 1) := by
      unfold Prefix.blCount
      by_cases h : x = L + 1 <;> simp [h, Nat.add_comm]
    rw [kk_cons, kk_cons, ih, hb]
    -- a length in `1..L` weighs twice as much at `L + 1`; the length `L + 1` is new and weighs 1
    by_cases h1 : x = L + 1
    · rw [if_pos h1, h1, if_pos ⟨Nat.succ_pos L, Nat.le_refl _⟩, if_neg (fun h => Nat.not_succ_le_self L h.2),
        Nat.sub_self, Nat.pow_zero, Nat.zero_add, Nat.add_left_comm]
    · rw [if_neg h1]
      by_cases h2 : 1 ≤ x ∧ x ≤ L
      · rw [if_pos h2, if_pos ⟨h2.1, Nat.le_succ_of_le h2.2⟩, Nat.succ_sub h2.2, Nat.pow_succ, Nat.zero_add, Nat.mul_add,
          Nat.add_assoc, Nat.mul_comm _ 2]
      · rw [if_neg h2, if_neg (fun h => h2 ⟨h.1, Nat.lt_succ_iff.mp (Nat.lt_of_le_of_ne h.2 h1)⟩)]
        simp only [Nat.zero_add]

theorem blockEnd_eq_kk (ls : List Nat) : ∀ L, Prefix.blockEnd ls L = kk ls L := by
  intro L
  induction L with
  | zero =>
    have : ls.filter (fun l => 1 ≤ l ∧ l ≤ 0) = [] := List.filter_eq_nil_iff.mpr fun a _ h =>
      Nat.not_succ_le_zero 0 (Nat.le_trans (of_decide_eq_true h).1 (of_decide_eq_true h).2)
    rw [kk, this]; rfl
  | succ L ih =>
    rw [kk_succ, ← ih, Prefix.blockEnd, if_neg (Nat.succ_ne_zero L), Prefix.nextCode_succ, Nat.mul_comm]

theorem kraft_kk (ls : List Nat) (L : Nat) (h : ∀ l ∈ ls, l ≤ L) : Prefix.kraft ls L = kk ls L := by
  unfold Prefix.kraft kk
  rw [foldl_add_sum (fun l => 2 ^ (L - l))]
  congr 2
  apply List.filter_congr
  intro x hx
  have := h x hx
  simp only [ne_eq, decide_not, decide_eq_decide.mpr (show 1 ≤ x ∧ x ≤ L ↔ ¬ x = 0 from ⟨fun h => Nat.ne_of_gt h.1, fun h => ⟨Nat.pos_of_ne_zero h, this⟩⟩)]

theorem kraft_eq_blockEnd (ls : List Nat) (L : Nat) (h : ∀ l ∈ ls, l ≤ L) : Prefix.kraft ls L = Prefix.blockEnd ls L := by
  rw [kraft_kk ls L h, blockEnd_eq_kk]

theorem kk_above (ls : List Nat) (L : Nat) (hall : ∀ l ∈ ls, l ≤ L) : ∀ d, kk ls (L + d) = kk ls L * 2 ^ d := by
  intro d
  induction d with
  | zero => rw [Nat.add_zero, Nat.pow_zero, Nat.mul_one]
  | succ d ih =>
    rw [← Nat.add_assoc, kk_succ, ih, Prefix.blCount_zero_above ls L _ hall (Nat.lt_succ_of_le (Nat.le_add_right L d)),
      Nat.pow_succ, Nat.add_zero, Nat.mul_left_comm, Nat.mul_comm 2]

theorem kraft_above (ls : List Nat) (L M : Nat) (hall : ∀ l ∈ ls, l ≤ L) (h : L ≤ M) :
    Prefix.kraft ls M = Prefix.kraft ls L * 2 ^ (M - L) := by
  obtain ⟨d, rfl⟩ := Nat.exists_eq_add_of_le h
  rw [Nat.add_sub_cancel_left, kraft_kk _ _ hall, kraft_kk _ _ fun l hl => Nat.le_trans (hall l hl) h, kk_above _ _ hall]

theorem kraft_complete_above (ls : List Nat) (L M : Nat) (hall : ∀ l ∈ ls, l ≤ L) (h : L ≤ M)
    (hk : Prefix.kraft ls L = 2 ^ L) : Prefix.kraft ls M = 2 ^ M := by
  rw [kraft_above ls L M hall h, hk, ← Nat.pow_add, Nat.add_sub_cancel' h]

/-- the value the final `assert_eq!` tests is twice the scaled Kraft sum -/
theorem final_eq_kraft (lengths : Array Nat) (limit : Nat) (h : ∀ l ∈ lengths.toList, l ≤ limit) :
    (assignCodes lengths limit).2 = 2 * Prefix.kraft lengths.toList limit := by
  rw [(assignCodes_spec lengths limit).1, Prefix.nextCode_succ, ← kraft_eq_blockEnd _ _ h, Nat.mul_comm]

/-! ### bit reversal: `(code as u16).reverse_bits() >> (16 - len)` reverses the low `len` bits -/

def bitSum (c m : Nat) (n : Nat) : Nat := ((List.range n).map (fun k => (c / 2 ^ k % 2) * 2 ^ (m - 1 - k))).sum

theorem bitSum_succ (c m n : Nat) : bitSum c m (n + 1) = bitSum c m n + (c / 2 ^ n % 2) * 2 ^ (m - 1 - n) := by
  unfold bitSum
  rw [List.range_succ, List.map_append, List.sum_append, List.map_singleton, List.sum_singleton]

theorem reverseBits16_eq (x : Nat) : reverseBits16 x = bitSum x 16 16 := by
  unfold reverseBits16 bitSum
  rw [foldl_add_sum (fun k => (x / 2 ^ k % 2) * 2 ^ (15 - k))]

theorem reverseBits_eq (c len : Nat) : Prefix.reverseBits c len = bitSum c len len := by
  unfold Prefix.reverseBits bitSum
  rw [foldl_add_sum (fun k => (c / 2 ^ k % 2) * 2 ^ (len - 1 - k))]

/-- bits at and above `len` of a value below `2^len` are zero -/
theorem bitSum_high (c len m : Nat) (hc : c < 2 ^ len) : ∀ d, bitSum c m (len + d) = bitSum c m len := by
  intro d
  induction d with
  | zero => rfl
  | succ d ih =>
    rw [← Nat.add_assoc, bitSum_succ, ih,
      Nat.div_eq_of_lt (Nat.lt_of_lt_of_le hc (Nat.pow_le_pow_right (by decide) (Nat.le_add_right len d))),
      Nat.zero_mod, Nat.zero_mul, Nat.add_zero]

theorem bitSum_scale (c len : Nat) (hl : len ≤ 16) : ∀ n, n ≤ len →
    bitSum c 16 n = 2 ^ (16 - len) * bitSum c len n := by
  intro n hn
  induction n with
  | zero => rfl
  | succ n ih =>
    rw [bitSum_succ, bitSum_succ, ih (Nat.le_of_succ_le hn), Nat.mul_add, Nat.mul_left_comm, ← Nat.pow_add,
      Nat.sub_sub, Nat.sub_sub, Nat.sub_add_sub_cancel hl (Nat.add_comm 1 n ▸ hn)]

theorem codeWord_eq (c len : Nat) (hl : len ≤ 16) (hc : c < 2 ^ len) :
    codeWord c len = Prefix.reverseBits c len := by
  unfold codeWord
  have hc16 : c < 65536 := Nat.lt_of_lt_of_le hc (Nat.pow_le_pow_right (by decide) hl)
  have hhigh := bitSum_high c len 16 hc (16 - len)
  rw [Nat.add_sub_cancel' hl] at hhigh
  rw [Nat.mod_eq_of_lt hc16, reverseBits16_eq, reverseBits_eq, hhigh,
    bitSum_scale c len hl len (Nat.le_refl _), Nat.mul_div_cancel_left _ (Nat.two_pow_pos _)]

theorem canonical_eq (lengths : Array Nat) (limit : Nat)
    (hall : ∀ l ∈ lengths.toList, l ≤ limit) (hk : Prefix.kraft lengths.toList limit ≤ 2 ^ limit)
    (j : Nat) (hj : j < lengths.size) (hne : lengths[j]! ≠ 0) :
    Prefix.canonicalCode lengths.toList j =
      some (Prefix.nextCode lengths.toList lengths[j]! + Prefix.rank lengths.toList j lengths[j]!) ∧
    Prefix.nextCode lengths.toList lengths[j]! + Prefix.rank lengths.toList j lengths[j]! < 2 ^ lengths[j]! ∧
    lengths[j]! ≤ limit := by
  have hget : lengths.toList[j]? = some lengths[j]! := by
    rw [Array.getElem?_toList, Array.getElem?_eq_getElem hj, getElem!_pos lengths j hj]
  have hle : lengths[j]! ≤ limit := hall _ (List.mem_of_getElem? hget)
  have hc := Prefix.canonical_of_get _ j _ hget hne
  have hlt := Prefix.canonical_lt lengths.toList limit (kraft_eq_blockEnd _ _ hall ▸ hk) j _ hc
  rw [toList_getD] at hlt
  exact ⟨hc, hlt hle, hle⟩

theorem canonical_fits (lengths : Array Nat) (limit : Nat)
    (hall : ∀ l ∈ lengths.toList, l ≤ limit) (hk : Prefix.kraft lengths.toList limit ≤ 2 ^ limit)
    (j : Nat) (hj : j < lengths.size) (hne : lengths[j]! ≠ 0) :
    ∃ c, Prefix.canonicalCode lengths.toList j = some c ∧ c < 2 ^ lengths[j]! :=
  ⟨_, (canonical_eq lengths limit hall hk j hj hne).1, (canonical_eq lengths limit hall hk j hj hne).2.1⟩

/-- **Phase 4**: for limited lengths within the code space, every used symbol gets the
    specification's canonical code word, bit-reversed for the LSB-first stream -/
theorem assign_canonical (lengths : Array Nat) (limit : Nat) (hlim : limit ≤ 16)
    (hall : ∀ l ∈ lengths.toList, l ≤ limit) (hk : Prefix.kraft lengths.toList limit ≤ 2 ^ limit) :
    ∀ j, j < lengths.size → lengths[j]! ≠ 0 →
      some (assignCodes lengths limit).1[j]! =
        (Prefix.canonicalCode lengths.toList j).map (fun c => Prefix.reverseBits c lengths[j]!) := by
  intro j hj hne
  obtain ⟨hc, hlt, hle⟩ := canonical_eq lengths limit hall hk j hj hne
  rw [(assignCodes_spec lengths limit).2.2 j hj, if_pos ⟨Nat.pos_of_ne_zero hne, hle⟩, hc, Option.map_some,
    codeWord_eq _ _ (Nat.le_trans hle hlim) hlt]

end EncHuff
