import WebpVerif.Model.Enc

/-!
What the encoder's frequency counting guarantees: every symbol that will be written has a non-zero
count (so it gets a code word), the histograms keep their sizes and their sums stay far below 2^32.
-/
namespace EncRT
open Enc

theorem addAt_get (a : Array Nat) (i j : Nat) : (addAt a i)[j]! = if i = j ∧ j < a.size then a[j]! + 1 else a[j]! := by
  unfold addAt
  rw [Array.getElem!_eq_getD, Array.getD_eq_getD_getElem?, Array.getElem!_eq_getD, Array.getD_eq_getD_getElem?]
  by_cases hj : j < a.size
  · rw [Array.getElem?_eq_getElem (by simpa using hj), Array.getElem?_eq_getElem hj, Array.getElem_modify]
    by_cases hij : i = j <;> simp [hij, hj]
  · rw [Array.getElem?_eq_none (by simpa using hj), Array.getElem?_eq_none (by omega)]
    simp [hj]

theorem addAt_pos (a : Array Nat) (i : Nat) (hi : i < a.size) : 0 < (addAt a i)[i]! := by
  rw [addAt_get, if_pos ⟨rfl, hi⟩]; exact Nat.succ_pos _

theorem sum_modify_le : ∀ (l : List Nat) (i : Nat), (l.modify i (· + 1)).sum ≤ l.sum + 1 := by
  intro l
  induction l with
  | nil => intro i; simp
  | cons a l ih =>
    intro i
    rw [List.modify_cons]
    split
    · simp only [List.sum_cons]; omega
    · simp only [List.sum_cons]; have := ih (i - 1); omega

/-- a histogram after some more counting: same size, no count smaller, at most `k` counted -/
structure Grows (a b : Array Nat) (k : Nat) : Prop where
  size : b.size = a.size
  le : ∀ j : Nat, a[j]! ≤ b[j]!
  sum : b.toList.sum ≤ a.toList.sum + k

theorem Grows.refl (a : Array Nat) (k : Nat) : Grows a a k := ⟨rfl, fun _ => Nat.le_refl _, Nat.le_add_right _ _⟩

theorem Grows.addAt {a b : Array Nat} {k : Nat} (h : Grows a b k) (i : Nat) : Grows a (addAt b i) (k + 1) := by
  refine ⟨by unfold Enc.addAt; rw [Array.size_modify, h.size], fun j => Nat.le_trans (h.le j) ?_, ?_⟩
  · rw [addAt_get]
    split
    · exact Nat.le_succ _
    · exact Nat.le_refl _
  · unfold Enc.addAt
    rw [Array.toList_modify]
    exact Nat.le_trans (sum_modify_le b.toList i) (Nat.succ_le_succ h.sum)

theorem Grows.trans {a b c : Array Nat} {k m : Nat} (h1 : Grows a b k) (h2 : Grows b c m) : Grows a c (k + m) :=
  ⟨h2.size.trans h1.size, fun j => Nat.le_trans (h1.le j) (h2.le j), Nat.add_assoc _ k m ▸ Nat.le_trans h2.sum (Nat.add_le_add_right h1.sum m)⟩

def Grows4 (f g : Array Nat × Array Nat × Array Nat × Array Nat) (k : Nat) : Prop :=
  Grows f.1 g.1 k ∧ Grows f.2.1 g.2.1 k ∧ Grows f.2.2.1 g.2.2.1 k ∧ Grows f.2.2.2 g.2.2.2 k

theorem Grows.ite_addAt (c : Prop) [Decidable c] (a : Array Nat) (i k : Nat) :
    Grows a (if c then Enc.addAt a i else a) (k + 1) := by
  split
  · exact (Grows.refl a k).addAt i
  · exact Grows.refl a _

theorem countTok_grows (isColor isAlpha : Bool) (f : Array Nat × Array Nat × Array Nat × Array Nat) (t : List Nat × Nat) :
    Grows4 f (countTok isColor isAlpha f t) 2 := by
  unfold countTok
  exact ⟨Grows.ite_addAt _ _ _ 1, ((Grows.refl _ 0).addAt _).trans (Grows.ite_addAt _ _ _ 0), Grows.ite_addAt _ _ _ 1,
    Grows.ite_addAt _ _ _ 1⟩

theorem countToks_grows (isColor isAlpha : Bool) : ∀ (toks : List (List Nat × Nat)) (f : Array Nat × Array Nat × Array Nat × Array Nat),
    Grows4 f (toks.foldl (countTok isColor isAlpha) f) (2 * toks.length) := by
  intro toks
  induction toks with
  | nil => intro f; exact ⟨Grows.refl _ _, Grows.refl _ _, Grows.refl _ _, Grows.refl _ _⟩
  | cons t rest ih =>
    intro f
    obtain ⟨a0, a1, a2, a3⟩ := countTok_grows isColor isAlpha f t
    obtain ⟨b0, b1, b2, b3⟩ := ih (countTok isColor isAlpha f t)
    rw [List.foldl_cons, List.length_cons, Nat.mul_succ, Nat.add_comm]
    exact ⟨a0.trans b0, a1.trans b1, a2.trans b2, a3.trans b3⟩

theorem Grows.of_zeros {n k : Nat} {b : Array Nat} (h : Grows (Array.replicate n 0) b k) : b.size = n ∧ b.toList.sum ≤ k := by
  have := h.sum
  rw [Array.toList_replicate, List.sum_replicate_nat, Nat.mul_zero, Nat.zero_add] at this
  exact ⟨h.size.trans Array.size_replicate, this⟩

/-- the four histograms before any pixel is counted: at most one seeded count each -/
theorem initFreqs_grows (color : Nat) :
    Grows4 (Array.replicate 256 0, Array.replicate 280 0, Array.replicate 256 0, Array.replicate 256 0) (initFreqs color) 1 := by
  unfold initFreqs
  exact ⟨Grows.ite_addAt _ _ 0 0, Grows.refl _ _, Grows.ite_addAt _ _ 0 0, Grows.ite_addAt _ _ 0 0⟩

/-- what one token contributes: each symbol it will be written with is counted -/
def Counted (isColor isAlpha : Bool) (t : List Nat × Nat) (g : Array Nat × Array Nat × Array Nat × Array Nat) : Prop :=
  0 < g.2.1[t.1.getD 1 0]! ∧ (t.2 > 0 → 0 < g.2.1[runSymbol t.2]!) ∧
  (isColor = true → 0 < g.1[t.1.getD 0 0]! ∧ 0 < g.2.2.1[t.1.getD 2 0]!) ∧
  (isAlpha = true → 0 < g.2.2.2[t.1.getD 3 0]!)

/-- a token whose symbols are inside the alphabets -/
def TokIn (t : List Nat × Nat) : Prop :=
  t.1.getD 0 0 < 256 ∧ t.1.getD 1 0 < 256 ∧ t.1.getD 2 0 < 256 ∧ t.1.getD 3 0 < 256 ∧ runSymbol t.2 < 280

theorem countTok_counted (isColor isAlpha : Bool) (f : Array Nat × Array Nat × Array Nat × Array Nat) (t : List Nat × Nat)
    (s0 : f.1.size = 256) (s1 : f.2.1.size = 280) (s2 : f.2.2.1.size = 256) (s3 : f.2.2.2.size = 256) (hin : TokIn t) :
    Counted isColor isAlpha t (countTok isColor isAlpha f t) := by
  obtain ⟨i0, i1, i2, i3, ir⟩ := hin
  have hg : 0 < (addAt f.2.1 (t.1.getD 1 0))[t.1.getD 1 0]! := addAt_pos _ _ (s1 ▸ Nat.lt_trans i1 (by decide))
  unfold countTok
  refine ⟨?_, fun hr => ?_, fun hc => ?_, fun ha => ?_⟩ <;> simp only
  · split
    · exact Nat.lt_of_lt_of_le hg (((Grows.refl _ 0).addAt _).le _)
    · exact hg
  · rw [if_pos hr]
    exact addAt_pos _ _ (by rw [((Grows.refl f.2.1 0).addAt _).size, s1]; exact ir)
  · rw [if_pos hc, if_pos hc]
    exact ⟨addAt_pos _ _ (s0 ▸ i0), addAt_pos _ _ (s2 ▸ i2)⟩
  · rw [if_pos ha]
    exact addAt_pos _ _ (s3 ▸ i3)

theorem counted_mono (isColor isAlpha : Bool) (t : List Nat × Nat) (g g' : Array Nat × Array Nat × Array Nat × Array Nat) (k : Nat)
    (h : Counted isColor isAlpha t g) (hle : Grows4 g g' k) : Counted isColor isAlpha t g' := by
  obtain ⟨h1, h2, h3, h4⟩ := h
  obtain ⟨g0, g1, g2, g3⟩ := hle
  exact ⟨Nat.lt_of_lt_of_le h1 (g1.le _), fun hr => Nat.lt_of_lt_of_le (h2 hr) (g1.le _),
    fun hc => ⟨Nat.lt_of_lt_of_le (h3 hc).1 (g0.le _), Nat.lt_of_lt_of_le (h3 hc).2 (g2.le _)⟩,
    fun ha => Nat.lt_of_lt_of_le (h4 ha) (g3.le _)⟩

theorem countToks_counted (isColor isAlpha : Bool) : ∀ (toks : List (List Nat × Nat)) (f : Array Nat × Array Nat × Array Nat × Array Nat),
    f.1.size = 256 → f.2.1.size = 280 → f.2.2.1.size = 256 → f.2.2.2.size = 256 → (∀ t ∈ toks, TokIn t) →
    ∀ t ∈ toks, Counted isColor isAlpha t (toks.foldl (countTok isColor isAlpha) f) := by
  intro toks
  induction toks with
  | nil => intro f _ _ _ _ _ t ht; cases ht
  | cons t0 rest ih =>
    intro f s0 s1 s2 s3 hin t ht
    rw [List.foldl_cons]
    rcases List.mem_cons.mp ht with rfl | hm
    · exact counted_mono _ _ _ _ _ _ (countTok_counted isColor isAlpha f t s0 s1 s2 s3 (hin t List.mem_cons_self))
        (countToks_grows _ _ _ _)
    · obtain ⟨g0, g1, g2, g3⟩ := countTok_grows isColor isAlpha f t0
      exact ih _ (g0.size.trans s0) (g1.size.trans s1) (g2.size.trans s2) (g3.size.trans s3)
        (fun t' ht' => hin t' (List.mem_cons_of_mem _ ht')) t hm

end EncRT
