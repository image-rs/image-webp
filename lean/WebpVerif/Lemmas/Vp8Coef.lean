import WebpVerif.Model.Vp8Coef

/-!
Range facts about the model of `read_coefficients`: a category token has at most eleven extra
bits, so every absolute token value is at most 2114 (inside i16) and every dequantised coefficient
at most 2114 times the quantiser (inside i32): no overflow in a checked build.
-/
namespace Vp8CoefProof
open Vp8Coef Arith

/-- the number of extra bits actually read: the probabilities before the first zero -/
def extraLen : List Nat → Nat
  | [] => 0
  | t :: ts => if t = 0 then 0 else extraLen ts + 1

theorem readExtra_bound : ∀ (ts : List Nat) (d : Dec) (extra : Nat),
    (readExtra ts d extra).1 < (extra + 1) * 2 ^ extraLen ts := by
  intro ts
  induction ts with
  | nil => intro d extra; simp [readExtra, extraLen]
  | cons t ts ih =>
    intro d extra
    unfold readExtra extraLen
    by_cases h0 : t = 0
    · rw [if_pos h0, if_pos h0]; simp
    · rw [if_neg h0, if_neg h0]
      simp only
      have := ih (readBool d t).2 (extra + extra + (readBool d t).1.toNat)
      have hb := Bool.toNat_le (readBool d t).1
      rw [Nat.pow_succ]
      calc (readExtra ts (readBool d t).2 (extra + extra + (readBool d t).1.toNat)).1
          < (extra + extra + (readBool d t).1.toNat + 1) * 2 ^ extraLen ts := this
        _ ≤ (2 * (extra + 1)) * 2 ^ extraLen ts := Nat.mul_le_mul_right _ (by omega)
        _ = (extra + 1) * (2 ^ extraLen ts * 2) := by
          rw [Nat.mul_comm 2 (extra + 1), Nat.mul_assoc, Nat.mul_comm 2]

/-- the largest is category 6: base 67 and 11 extra bits -/
theorem cat_value : ∀ k, k < 6 →
    Gen.Tables.DCT_CAT_BASE.getD k 0 + 2 ^ extraLen (Gen.Tables.PROB_DCT_CAT.getD k []) ≤ 2115 := by
  decide

/-- the absolute value a token stands for is at most 2114 (the i16 token arithmetic cannot overflow) -/
theorem abs_le (token : Nat) (d : Dec) :
    (if token ≤ 4 then (token, d) else
      (Gen.Tables.DCT_CAT_BASE.getD (token - 5) 0 + (readExtra (Gen.Tables.PROB_DCT_CAT.getD (token - 5) []) d 0).1,
       (readExtra (Gen.Tables.PROB_DCT_CAT.getD (token - 5) []) d 0).2)).1 ≤ 2114 := by
  by_cases h4 : token ≤ 4
  · rw [if_pos h4]; simp only; omega
  · rw [if_neg h4]
    simp only
    by_cases h10 : token ≤ 10
    · have h1 := readExtra_bound (Gen.Tables.PROB_DCT_CAT.getD (token - 5) []) d 0
      have h2 := cat_value (token - 5) (by omega)
      omega
    · have e1 : Gen.Tables.PROB_DCT_CAT.getD (token - 5) [] = [] := by
        rw [List.getD_eq_getElem?_getD, List.getElem?_eq_none (by
          have : Gen.Tables.PROB_DCT_CAT.length = 6 := by decide
          omega)]
        rfl
      have e2 : Gen.Tables.DCT_CAT_BASE.getD (token - 5) 0 = 0 := by
        rw [List.getD_eq_getElem?_getD, List.getElem?_eq_none (by
          have : Gen.Tables.DCT_CAT_BASE.length = 6 := by decide
          omega)]
        rfl
      rw [e1, e2]
      simp [readExtra]

def Bounded (Q : Nat) (block : Array Int) : Prop := ∀ z : Nat, (block[z]?.getD 0).natAbs ≤ 2114 * Q

theorem mul_bound (v : Nat) (hv : v ≤ 2114) (sgn : Bool) (q : Int) (Q : Nat) (hq : q.natAbs ≤ Q) :
    ((if sgn then -(v : Int) else (v : Int)) * q).natAbs ≤ 2114 * Q := by
  rw [Int.natAbs_mul]
  have : (if sgn then -(v : Int) else (v : Int)).natAbs = v := by cases sgn <;> simp
  rw [this]
  exact Nat.mul_le_mul hv hq

theorem step_bounded (probs : Nat → Nat → List Nat) (dcq acq : Int) (Q : Nat) (hd : dcq.natAbs ≤ Q) (ha : acq.natAbs ≤ Q)
    (i : Nat) (s : St) (hb : Bounded Q s.block) :
    ∀ r, stepAt probs dcq acq i s = some r → match r with | .inl s' => Bounded Q s'.block | .inr s' => Bounded Q s'.block := by
  intro r hr
  unfold stepAt at hr
  simp only at hr
  cases ht : readTreeFrom s.d (treeNodesFrom Gen.Tables.DCT_TOKEN_TREE (probs (Gen.Tables.COEFF_BANDS.getD i 0) s.complexity)).toArray
      (if s.skip then 1 else 0) with
  | none => rw [ht] at hr; cases hr
  | some tr =>
    obtain ⟨token, d⟩ := tr
    rw [ht] at hr
    simp only at hr
    by_cases h11 : token = 11
    · rw [if_pos h11] at hr
      injection hr with hr; subst hr; exact hb
    · rw [if_neg h11] at hr
      by_cases h0 : token = 0
      · rw [if_pos h0] at hr
        injection hr with hr; subst hr; exact hb
      · rw [if_neg h0] at hr
        injection hr with hr
        subst hr
        simp only
        have habs := abs_le token d
        generalize (if token ≤ 4 then (token, d) else
          (Gen.Tables.DCT_CAT_BASE.getD (token - 5) 0 + (readExtra (Gen.Tables.PROB_DCT_CAT.getD (token - 5) []) d 0).1,
           (readExtra (Gen.Tables.PROB_DCT_CAT.getD (token - 5) []) d 0).2)) = pr at habs ⊢
        intro z
        rw [Array.getElem?_setIfInBounds]
        by_cases hz : Gen.Tables.ZIGZAG.getD i 0 = z
        · rw [if_pos hz]
          by_cases hz2 : Gen.Tables.ZIGZAG.getD i 0 < s.block.size
          · rw [if_pos hz2]
            simp only [Option.getD_some]
            by_cases hzz : Gen.Tables.ZIGZAG.getD i 0 > 0
            · rw [if_pos hzz]; exact mul_bound _ habs _ acq Q ha
            · rw [if_neg hzz]; exact mul_bound _ habs _ dcq Q hd
          · rw [if_neg hz2]; simp
        · rw [if_neg hz]; exact hb z

theorem loop_bounded (probs : Nat → Nat → List Nat) (dcq acq : Int) (Q : Nat) (hd : dcq.natAbs ≤ Q) (ha : acq.natAbs ≤ Q) :
    ∀ (n i : Nat) (s s' : St), Bounded Q s.block → loop probs dcq acq n i s = some s' → Bounded Q s'.block := by
  intro n
  induction n with
  | zero => intro i s s' hb h; unfold loop at h; injection h with h; subst h; exact hb
  | succ n ih =>
    intro i s s' hb h
    unfold loop at h
    cases hs : stepAt probs dcq acq i s with
    | none => rw [hs] at h; cases h
    | some r =>
      rw [hs] at h
      have hr := step_bounded probs dcq acq Q hd ha i s hb r hs
      cases r with
      | inl s1 => simp only at h hr; injection h with h; subst h; exact hr
      | inr s1 => simp only at h hr; exact ih _ _ _ hr h

/-- **no coefficient overflows**: whatever the partition, the probabilities and the starting
    context, every value `read_coefficients` leaves in the block is at most 2114 quantiser steps -
    with i16 quantisers (`Q ≤ 2^15`) that is below 2^27, inside i32 -/
theorem coefficients_bounded (d : Dec) (probs : Nat → Nat → List Nat) (plane complexity : Nat) (dcq acq : Int) (Q : Nat)
    (hd : dcq.natAbs ≤ Q) (ha : acq.natAbs ≤ Q) (d' : Dec) (block : Array Int) (r : Option Bool)
    (h : readCoefficients d probs plane complexity dcq acq = some (d', block, r)) :
    ∀ z : Nat, (block[z]?.getD 0).natAbs ≤ 2114 * Q := by
  unfold readCoefficients at h
  simp only at h
  cases hl : loop probs dcq acq (16 - (if plane = 0 then 1 else 0)) (if plane = 0 then 1 else 0)
      { d := d, block := Array.replicate 16 0, complexity := complexity, skip := false, has := false } with
  | none => rw [hl] at h; cases h
  | some s =>
    rw [hl] at h
    injection h with h
    injection h with _ h; injection h with h _
    rw [← h]
    apply loop_bounded probs dcq acq Q hd ha _ _ _ s _ hl
    intro z
    simp only
    rw [Array.getElem?_replicate]
    split <;> simp

end Vp8CoefProof
