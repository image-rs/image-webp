import WebpVerif.Lemmas.HuffRead
import WebpVerif.Lemmas.ArrayWrites

/-!
`HuffmanTree::build_implicit`: the secondary trees, all in one vector.  Paths, the two
ways the builder overwrites an `Empty` node (`Branch` with two fresh children, `Leaf`), a fresh
root, and the reason the walk of a new symbol cannot disturb an old one: no node has two parents,
so a node is reached from one table slot by one bit path only.
-/
namespace Huff
open Prefix

/-- reading past the end gives `Empty`, which is why pushing `Empty` changes no read -/
theorem aget_oob (tree : Array Node) (i : Nat) (h : tree.size ≤ i) : tree[i]! = Node.empty := by
  rw [Array.getElem!_eq_getD, Array.getD_eq_getD_getElem?, Array.getElem?_eq_none h]
  rfl

theorem aget_push_empty (tree : Array Node) (i : Nat) : (tree.push .empty)[i]! = tree[i]! := by
  rw [Array.getElem!_eq_getD, Array.getD_eq_getD_getElem?, Array.getElem?_push]
  by_cases h : i = tree.size
  · rw [if_pos h, aget_oob tree i (by omega)]
    rfl
  · rw [if_neg h, Array.getElem!_eq_getD, Array.getD_eq_getD_getElem?]

/-- from node `n`, following the bits through `Branch` nodes, one arrives at node `m` -/
def Path (tree : Array Node) : Nat → List Nat → Nat → Prop
  | n, [], m => n = m
  | n, b :: bs, m => ∃ off, tree[n]! = .branch off ∧ Path tree (n + off + b) bs m

/-- only `Empty` slots differ -/
@[reducible] def Keep (t1 t2 : Array Node) : Prop := ∀ i : Nat, t1[i]! ≠ Node.empty → t2[i]! = t1[i]!

theorem Keep.refl (t : Array Node) : Keep t t := fun _ _ => rfl

theorem Keep.trans {a b c : Array Node} (h1 : Keep a b) (h2 : Keep b c) : Keep a c := by
  intro i hi
  have e1 := h1 i hi
  have e2 := h2 i (by rw [e1]; exact hi)
  rw [e2, e1]

theorem keep_push (t : Array Node) : Keep t (t.push .empty) := fun i _ => aget_push_empty t i

theorem path_keep {t1 t2 : Array Node} (hk : Keep t1 t2) : ∀ (bits : List Nat) (n m : Nat),
    Path t1 n bits m → Path t2 n bits m := by
  intro bits
  induction bits with
  | nil => intro n m h; exact h
  | cons b bs ih =>
    intro n m h
    obtain ⟨off, h1, h2⟩ := h
    exact ⟨off, by rw [hk n (by rw [h1]; exact fun h => by cases h), h1], ih _ _ h2⟩

theorem path_push (tree : Array Node) : ∀ (p : List Nat) (n m : Nat), Path (tree.push Node.empty) n p m → Path tree n p m := by
  intro p
  induction p with
  | nil => intro n m h; exact h
  | cons b bs ih =>
    intro n m ⟨off, h1, h2⟩
    rw [aget_push_empty] at h1
    exact ⟨off, h1, ih _ _ h2⟩

theorem path_snoc (tree : Array Node) : ∀ (bits : List Nat) (n k off b : Nat),
    Path tree n bits k → tree[k]! = .branch off → Path tree n (bits ++ [b]) (k + off + b) := by
  intro bits
  induction bits with
  | nil => intro n k off b h hk; subst h; exact ⟨off, hk, rfl⟩
  | cons x bs ih =>
    intro n k off b h hk
    obtain ⟨o, h1, h2⟩ := h
    exact ⟨o, h1, ih _ _ _ _ h2 hk⟩

theorem path_snoc_inv (tree : Array Node) : ∀ (q : List Nat) (n b m : Nat), Path tree n (q ++ [b]) m →
    ∃ k off, Path tree n q k ∧ tree[k]! = Node.branch off ∧ m = k + off + b := by
  intro q
  induction q with
  | nil =>
    intro n b m h
    obtain ⟨off, h1, h2⟩ := h
    exact ⟨n, off, rfl, h1, h2.symm⟩
  | cons x q ih =>
    intro n b m h
    obtain ⟨off, h1, h2⟩ := h
    obtain ⟨k, off', a1, a2, a3⟩ := ih _ b m h2
    exact ⟨k, off', ⟨off, h1, a1⟩, a2, a3⟩

/-- the slow path of `read_symbol` follows a path to its leaf -/
theorem slow_path (tree : Array Node) (s : Nat) : ∀ (bits : List Nat) (fuel x n m depth : Nat),
    Path tree n bits m → tree[m]! = .leaf s → bits = lsbBits x bits.length → bits.length < fuel →
    slow tree fuel x n depth = some (s, depth + bits.length) := by
  intro bits
  induction bits with
  | nil =>
    intro fuel x n m depth hp hm _ hf
    have : n = m := hp
    subst this
    obtain ⟨f, rfl⟩ : ∃ f, fuel = f + 1 := ⟨fuel - 1, by simp at hf; omega⟩
    rw [slow, hm]; rfl
  | cons b bs ih =>
    intro fuel x n m depth hp hm hb hf
    obtain ⟨off, h1, h2⟩ := hp
    obtain ⟨f, rfl⟩ : ∃ f, fuel = f + 1 := ⟨fuel - 1, by simp at hf; omega⟩
    rw [slow, h1]
    simp only
    rw [List.length_cons, lsbBits_cons] at hb
    injection hb with hb1 hb2
    rw [← hb1]
    have := ih f (x / 2) (n + off + b) m (depth + 1) h2 hm hb2 (by simp at hf; omega)
    rw [this, List.length_cons]
    congr 2; omega

/-- `t'` is `t` with the `Empty` node `n` overwritten by `x`; when `x` is a branch, its two
    children are fresh `Empty` nodes at the end of the vector -/
structure Edit (t t' : Array Node) (n : Nat) (x : Node) : Prop where
  get : ∀ i, t'[i]! = if i = n then x else t[i]!
  empty : t[n]! = .empty
  lt : n < t.size
  size : t.size ≤ t'.size
  fresh : ∀ off, x = .branch off → n + off = t.size ∧ t'.size = t.size + 2

theorem edit_leaf (t : Array Node) (n s : Nat) (hn : n < t.size) (he : t[n]! = .empty) :
    Edit t (t.setIfInBounds n (.leaf s)) n (.leaf s) where
  get := fun i => by rw [ArrayWrites.get_set]; simp only [hn, and_true]
  empty := he
  lt := hn
  size := by rw [Array.size_setIfInBounds]
  fresh := fun off h => by cases h

theorem edit_grow (t : Array Node) (n : Nat) (hn : n < t.size) (he : t[n]! = .empty) :
    Edit t (((t.setIfInBounds n (.branch (t.size - n))).push .empty).push .empty) n (.branch (t.size - n)) where
  get := fun i => by rw [aget_push_empty, aget_push_empty, ArrayWrites.get_set]; simp only [hn, and_true]
  empty := he
  lt := hn
  size := by rw [Array.size_push, Array.size_push, Array.size_setIfInBounds]; omega
  fresh := fun off h => by
    injection h with h
    exact ⟨by omega, by simp⟩

namespace Edit
variable {t t' : Array Node} {n : Nat} {x : Node}

theorem keep (e : Edit t t' n x) : Keep t t' := by
  intro i hi
  rw [e.get, if_neg]
  intro h
  rw [h] at hi
  exact hi e.empty

theorem branch (e : Edit t t' n x) {i o : Nat} (h : t'[i]! = .branch o) :
    (i = n ∧ n + o = t.size ∧ t'.size = t.size + 2) ∨ t[i]! = .branch o := by
  rw [e.get] at h
  by_cases hi : i = n
  · rw [if_pos hi] at h; exact Or.inl ⟨hi, e.fresh o h⟩
  · rw [if_neg hi] at h; exact Or.inr h

theorem old (e : Edit t t' n x) {m : Nat} (hm : t'[m]! ≠ .empty) (hmn : m ≠ n) : m < t.size ∧ t[m]! = t'[m]! := by
  rw [e.get, if_neg hmn] at hm ⊢
  refine ⟨?_, rfl⟩
  rcases Nat.lt_or_ge m t.size with h | h
  · exact h
  · exact absurd (aget_oob t m h) hm

/-- a path of the new tree that ends on an old node is a path of the old tree -/
theorem path_old (e : Edit t t' n x) {m : Nat} (hm : ∀ off, x = .branch off → m < t.size) :
    ∀ (p : List Nat) (r : Nat), Path t' r p m → Path t r p m := by
  intro p
  induction p with
  | nil => intro r h; exact h
  | cons b bs ih =>
    intro r ⟨off, h1, h2⟩
    rcases e.branch h1 with ⟨hr, hoff, _⟩ | h
    · -- the next node is a fresh child: the path can neither go on nor end on an old node
      exfalso
      have hx : x = .branch off := by rw [e.get, if_pos hr] at h1; exact h1
      have hlt := e.lt
      cases bs with
      | nil =>
        have : r + off + b = m := h2
        have := hm off hx
        omega
      | cons b' bs' =>
        obtain ⟨off', g1, _⟩ := h2
        rw [e.get, if_neg (by omega), aget_oob t _ (by omega)] at g1
        cases g1
    · exact ⟨off, h, ih _ h2⟩

end Edit

/-- the root a table slot points to, if it holds a pointer (non-zero, length field zero) -/
def rootOf (table : Array Nat) (j : Nat) : Option Nat :=
  if table[j]! ≠ 0 ∧ table[j]! < 65536 then some (table[j]! - 1) else none

theorem rootOf_some {table : Array Nat} {j root : Nat} (h : rootOf table j = some root) :
    table[j]! = root + 1 ∧ root + 1 < 65536 := by
  unfold rootOf at h
  split at h
  · injection h
    omega
  · cases h

theorem rootOf_set (table : Array Nat) (idx v : Nat) (hidx : idx < table.size) (hv0 : v ≠ 0) (hv : v < 65536) (j : Nat) :
    rootOf (table.setIfInBounds idx v) j = if j = idx then some (v - 1) else rootOf table j := by
  unfold rootOf
  have e : (table.setIfInBounds idx v)[j]! = if j = idx then v else table[j]! := by
    rw [ArrayWrites.get_set]
    simp only [hidx, and_true]
  rw [e]
  by_cases h : j = idx
  · rw [if_pos h, if_pos h, if_pos ⟨hv0, hv⟩]
  · rw [if_neg h, if_neg h]

/-- children of branches are inside the vector, no node has two parents, roots have none, slots
    have distinct roots -/
structure Shape (tree : Array Node) (table : Array Nat) : Prop where
  childIn : ∀ i off : Nat, tree[i]! = Node.branch off → i + off + 1 < tree.size
  oneParent : ∀ i i' off off' b b' : Nat, tree[i]! = Node.branch off → tree[i']! = Node.branch off' → b < 2 → b' < 2 →
    i + off + b = i' + off' + b' → i = i' ∧ b = b'
  rootNoParent : ∀ j root i off b : Nat, rootOf table j = some root → tree[i]! = Node.branch off → b < 2 → i + off + b ≠ root
  rootsDistinct : ∀ j j' root : Nat, rootOf table j = some root → rootOf table j' = some root → j = j'
  rootIn : ∀ j root : Nat, rootOf table j = some root → root < tree.size

/-- no aliasing: a node is reached from at most one slot by at most one bit path -/
theorem path_unique (tree : Array Node) (table : Array Nat) (ts : Shape tree table) :
    ∀ (p p' : List Nat) (j j' root root' m : Nat), Bits p → Bits p' →
      rootOf table j = some root → rootOf table j' = some root' → Path tree root p m → Path tree root' p' m →
      j = j' ∧ p = p' := by
  intro p
  induction p using List.reverseRecOn with
  | nil =>
    intro p' j j' root root' m _ hb' hr hr' hp hp'
    have hm : root = m := hp
    subst hm
    cases p' using List.reverseRecOn with
    | nil =>
      have : root' = root := hp'
      subst this
      exact ⟨ts.rootsDistinct j j' root' hr hr', rfl⟩
    | append_singleton q' b' =>
      obtain ⟨k, off, _, a2, a3⟩ := path_snoc_inv tree q' root' b' root hp'
      exact absurd a3.symm (ts.rootNoParent j root k off b' hr a2 (hb' b' (by simp)))
  | append_singleton q b ih =>
    intro p' j j' root root' m hb hb' hr hr' hp hp'
    obtain ⟨k, off, a1, a2, a3⟩ := path_snoc_inv tree q root b m hp
    cases p' using List.reverseRecOn with
    | nil =>
      have : root' = m := hp'
      subst this
      exact absurd a3.symm (ts.rootNoParent j' root' k off b hr' a2 (hb b (by simp)))
    | append_singleton q' b' =>
      obtain ⟨k', off', c1, c2, c3⟩ := path_snoc_inv tree q' root' b' m hp'
      have hbb := hb b (by simp)
      have hbb' := hb' b' (by simp)
      obtain ⟨e1, e2⟩ := ts.oneParent k k' off off' b b' a2 c2 hbb hbb' (by omega)
      subst e1 e2
      obtain ⟨i1, i2⟩ := ih q' j j' root root' k (fun x hx => hb x (by simp [hx])) (fun x hx => hb' x (by simp [hx]))
        hr hr' a1 c1
      exact ⟨i1, by rw [i2]⟩

theorem Shape.edit {t t' : Array Node} {table : Array Nat} {n : Nat} {x : Node} (ts : Shape t table) (e : Edit t t' n x) :
    Shape t' table := by
  have hs := e.size
  refine { childIn := ?_, oneParent := ?_, rootNoParent := ?_, rootsDistinct := ts.rootsDistinct, rootIn := fun j r h => Nat.lt_of_lt_of_le (ts.rootIn j r h) hs }
  · intro i off hi
    rcases e.branch hi with ⟨_, _, _⟩ | h
    · omega
    · have := ts.childIn i off h
      omega
  · intro i i' off off' b b' hi hi' hb hb' heq
    rcases e.branch hi with ⟨_, _, _⟩ | h
    · rcases e.branch hi' with ⟨_, _, _⟩ | h'
      · omega
      · have := ts.childIn i' off' h'
        omega
    · rcases e.branch hi' with ⟨_, _, _⟩ | h'
      · have := ts.childIn i off h
        omega
      · exact ts.oneParent i i' off off' b b' h h' hb hb' heq
  · intro j r i off b hr hi hb
    rcases e.branch hi with ⟨_, _, _⟩ | h
    · have := ts.rootIn j r hr
      omega
    · exact ts.rootNoParent j r i off b hr h hb

theorem Shape.congr {tree : Array Node} {table table' : Array Nat} (ts : Shape tree table)
    (h : ∀ j, rootOf table' j = rootOf table j) : Shape tree table' :=
  { childIn := ts.childIn, oneParent := ts.oneParent,
    rootNoParent := fun j r i off b hr => ts.rootNoParent j r i off b (by rw [← h]; exact hr),
    rootsDistinct := fun j j' r hr hr' => ts.rootsDistinct j j' r (by rw [← h]; exact hr) (by rw [← h]; exact hr'),
    rootIn := fun j r hr => ts.rootIn j r (by rw [← h]; exact hr) }

theorem Shape.root {tree : Array Node} {table table' : Array Nat} {idx : Nat} (ts : Shape tree table)
    (hro : ∀ j r, rootOf table' j = some r → (j = idx ∧ r = tree.size) ∨ rootOf table j = some r) :
    Shape (tree.push .empty) table' := by
  refine { childIn := ?_, oneParent := ?_, rootNoParent := ?_, rootsDistinct := ?_, rootIn := ?_ }
  · intro i off hi
    rw [aget_push_empty] at hi
    have := ts.childIn i off hi
    rw [Array.size_push]; omega
  · intro i i' off off' b b' hi hi'
    rw [aget_push_empty] at hi hi'
    exact ts.oneParent i i' off off' b b' hi hi'
  · intro j r i off b hr hi hb
    rw [aget_push_empty] at hi
    rcases hro j r hr with ⟨_, h⟩ | h
    · have := ts.childIn i off hi
      omega
    · exact ts.rootNoParent j r i off b h hi hb
  · intro j j' r hr hr'
    rcases hro j r hr with ⟨h1, h2⟩ | h
    · rcases hro j' r hr' with ⟨h1', _⟩ | h'
      · rw [h1, h1']
      · have := ts.rootIn j' r h'
        omega
    · rcases hro j' r hr' with ⟨_, h2'⟩ | h'
      · have := ts.rootIn j r h
        omega
      · exact ts.rootsDistinct j j' r h h'
  · intro j r hr
    rw [Array.size_push]
    rcases hro j r hr with ⟨_, h⟩ | h
    · omega
    · have := ts.rootIn j r h
      omega

end Huff
