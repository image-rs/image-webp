import WebpVerif.Model.Enc
import WebpVerif.Model.LosslessKernels

/-!
The run-length prefix coding of the encoder: `length_to_symbol` against the specification's LZ77
prefix rule (`LK.copyExtraBits`, `LK.copyValue`), for every run length.
-/
namespace EncLen
open Enc

/-- the prefix rule on the symbol `2·(e+2) + b` for a bit `b` -/
theorem copy_of_symbol (e b r : Nat) (hb : b < 2) :
    4 ≤ 2 * (e + 2) + b ∧ LK.copyExtraBits (2 * (e + 2) + b) = e + 1 ∧
      LK.copyValue (2 * (e + 2) + b) r = (2 + b) * 2 ^ (e + 1) + r + 1 := by
  have h4 : 4 ≤ 2 * (e + 2) + b := Nat.le_trans (Nat.mul_le_mul_left 2 (Nat.le_add_left 2 e)) (Nat.le_add_right ..)
  have hs := Nat.not_lt.mpr h4
  have he : (2 * (e + 2) + b - 2) / 2 = e + 1 := by omega
  have hq : (2 * (e + 2) + b) % 2 = b := by rw [Nat.mul_add_mod, Nat.mod_eq_of_lt hb]
  unfold LK.copyExtraBits LK.copyValue
  rw [if_neg hs, if_neg hs, he, hq]
  exact ⟨h4, rfl, rfl⟩

/-- every run length from 5 is written as a symbol and extra bits that the prefix rule turns back
    into it -/
theorem length_symbol_spec (len : Nat) (h5 : 5 ≤ len) :
    4 ≤ (lengthToSymbol len).1 ∧ LK.copyExtraBits (lengthToSymbol len).1 = (lengthToSymbol len).2 ∧
    LK.copyValue (lengthToSymbol len).1 ((len - 1) % 2 ^ (lengthToSymbol len).2) = len ∧
    ∀ k, len ≤ 2 ^ k → (lengthToSymbol len).1 < 2 * k := by
  have h4 : 4 ≤ len - 1 := Nat.le_sub_one_of_lt h5
  have hl : len - 1 ≠ 0 := Nat.ne_of_gt (Nat.lt_of_lt_of_le (by decide) h4)
  have hlo := Nat.log2_self_le hl
  have hhi := Nat.lt_log2_self (n := len - 1)
  have h2 : 2 ≤ (len - 1).log2 := (Nat.le_log2 hl).mpr h4
  -- `e + 2` is the position of the top bit of `len − 1`, `b` the bit below it
  obtain ⟨e, he⟩ := Nat.exists_eq_add_of_le' h2
  rw [he] at hlo hhi
  have hs : lengthToSymbol len = (2 * (e + 2) + (len - 1) / 2 ^ (e + 1) % 2, e + 1) := by
    unfold lengthToSymbol; simp only [he]; rfl
  have hk : ∀ k, len ≤ 2 ^ k → e + 2 < k := fun k hk => (Nat.pow_lt_pow_iff_right (by decide : 1 < 2)).mp
    (Nat.lt_of_lt_of_le (Nat.lt_of_le_sub_one (Nat.lt_of_lt_of_le (by decide) h5) hlo) hk)
  rw [Nat.pow_succ'] at hlo hhi
  rw [Nat.pow_succ'] at hhi
  have hq : 2 + (len - 1) / 2 ^ (e + 1) % 2 = (len - 1) / 2 ^ (e + 1) := by
    have := (Nat.le_div_iff_mul_le (Nat.two_pow_pos (e + 1))).mpr hlo
    have := (Nat.div_lt_iff_lt_mul (Nat.two_pow_pos (e + 1))).mpr (Nat.mul_assoc 2 2 _ ▸ hhi)
    omega
  have hb := Nat.mod_lt ((len - 1) / 2 ^ (e + 1)) (by decide : 0 < 2)
  rw [hs]
  generalize (len - 1) / 2 ^ (e + 1) % 2 = b at hq hb ⊢
  obtain ⟨hs4, hx, hv⟩ := copy_of_symbol e b ((len - 1) % 2 ^ (e + 1)) hb
  refine ⟨hs4, hx, ?_, fun k hk' => ?_⟩
  · rw [hv, hq, Nat.mul_comm, Nat.div_add_mod]; exact Nat.sub_add_cancel (Nat.le_trans (by decide) h5)
  · have := hk k hk'
    show 2 * (e + 2) + b < 2 * k
    omega

theorem length_symbol_inv (len : Nat) (h : len < 4097) (h5 : 5 ≤ len) :
    (lengthToSymbol len).1 < 24 ∧ 4 ≤ (lengthToSymbol len).1 ∧ LK.copyExtraBits (lengthToSymbol len).1 = (lengthToSymbol len).2 ∧
    LK.copyValue (lengthToSymbol len).1 ((len - 1) % 2 ^ (lengthToSymbol len).2) = len :=
  have ⟨h4, hx, hv, hlt⟩ := length_symbol_spec len h5
  -- the longest run is 4096 = 2^12, so the symbol is below 2·12 = 24, the number of length prefixes
  ⟨hlt 12 (by omega), h4, hx, hv⟩

end EncLen
