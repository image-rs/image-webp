/-!
The raster scan of a VP8 frame: macroblocks row by row, inside a macroblock a square grid of
blocks row by row.  The decoder keeps, per macroblock column, what the last macroblock decoded in
that column left behind (`top`) and what the macroblock to the left left behind (`left`, reset at
row starts); a block reads the entry above it and the entry to its left and overwrites both.
The loops of the models are recursions on the trip count; they enter here through their two
defining equations, which hold by `rfl`.
-/
namespace MbGrid

theorem loop_inv {σ : Type} {step : Nat → σ → σ} {loop : Nat → Nat → σ → σ}
    (h0 : ∀ i s, loop 0 i s = s) (hs : ∀ k i s, loop (k + 1) i s = loop k (i + 1) (step i s))
    {n : Nat} {Inv : Nat → σ → Prop} (hstep : ∀ i s, i < n → Inv i s → Inv (i + 1) (step i s)) :
    ∀ k i s, i + k = n → Inv i s → Inv n (loop k i s) := by
  intro k
  induction k with
  | zero => intro i s h inv; rw [h0]; exact h ▸ inv
  | succ k ih => intro i s h inv; rw [hs]; exact ih (i + 1) _ (by omega) (hstep i s (by omega) inv)

/-- The scan of a frame of `W × H` macroblocks: `rowMbs mby` runs `mbStep · mby` along a row, `rows`
    runs the rows, each after `reset`. -/
theorem scan_inv {σ : Type} {mbStep : Nat → Nat → σ → σ} {reset : σ → σ} {W : Nat}
    {rowMbs : Nat → Nat → Nat → σ → σ} (hr0 : ∀ mby i s, rowMbs mby 0 i s = s)
    (hrs : ∀ mby k i s, rowMbs mby (k + 1) i s = rowMbs mby k (i + 1) (mbStep i mby s))
    {rows : Nat → Nat → σ → σ} (h0 : ∀ i s, rows 0 i s = s)
    (hs : ∀ k i s, rows (k + 1) i s = rows k (i + 1) (rowMbs i W 0 (reset s)))
    {Inv : Nat → Nat → σ → Prop} (hstep : ∀ mbx mby s, mbx < W → Inv mbx mby s → Inv (mbx + 1) mby (mbStep mbx mby s))
    (hnext : ∀ mby s, Inv W mby s → Inv 0 (mby + 1) (reset s)) (H : Nat) (s : σ) (hinit : Inv 0 0 (reset s)) :
    Inv 0 H (reset (rows H 0 s)) :=
  loop_inv (Inv := fun mby s => Inv 0 mby (reset s)) h0 hs
    (fun mby s _ inv => hnext mby _
      (loop_inv (step := (mbStep · mby)) (Inv := (Inv · mby)) (hr0 mby) (hrs mby) (hstep · mby) W 0 (reset s) (Nat.zero_add W) inv))
    H 0 s (Nat.zero_add H) hinit

section blocks
variable {α C : Type}

theorem run_snoc (v t : Nat → α) (base x i : Nat) :
    (if i = base + x then v x else if base ≤ i ∧ i < base + x then v (i - base) else t i) =
      if base ≤ i ∧ i < base + (x + 1) then v (i - base) else t i := by
  by_cases hi : i = base + x
  · rw [if_pos hi, if_pos (by omega), hi, Nat.add_sub_cancel_left]
  · rw [if_neg hi]
    exact ite_congr (propext (by omega)) (fun _ => rfl) (fun _ => rfl)

/-- One row of `n` blocks whose entries sit at `base ..` in the `top` array `t`: block `x` is
    announced (`emit`) with the entry above it and the running entry `l` to its left, then puts its
    value `v x` in both.  Every announcement satisfies `G` if it does when fed the entries the
    geometry predicts: the old `t` above, the previous block's value (or the incoming `l`) left. -/
theorem blockRow_spec (emit : Nat → α → α → C) (v : Nat → α) (base : Nat)
    {row : Nat → Nat → (Nat → α) → α → List C → (Nat → α) × α × List C}
    (h0 : ∀ x t l out, row 0 x t l out = (t, l, out))
    (hs : ∀ k x t l out, row (k + 1) x t l out =
      row k (x + 1) (fun i => if i = base + x then v x else t i) (v x) (emit x (t (base + x)) l :: out))
    (G : C → Prop) (n : Nat) (t : Nat → α) (l : α) (out : List C) (ho : ∀ c ∈ out, G c)
    (hG : ∀ x, x < n → G (emit x (t (base + x)) (if x = 0 then l else v (x - 1)))) :
    (∀ c ∈ (row n 0 t l out).2.2, G c) ∧
    (row n 0 t l out).2.1 = (if n = 0 then l else v (n - 1)) ∧
    (∀ i, (row n 0 t l out).1 i = if base ≤ i ∧ i < base + n then v (i - base) else t i) := by
  refine loop_inv (σ := (Nat → α) × α × List C) (loop := fun k x s => row k x s.1 s.2.1 s.2.2)
    (step := fun x s => (fun i => if i = base + x then v x else s.1 i, v x, emit x (s.1 (base + x)) s.2.1 :: s.2.2))
    (Inv := fun x s => (∀ c ∈ s.2.2, G c) ∧ s.2.1 = (if x = 0 then l else v (x - 1)) ∧
      ∀ i, s.1 i = if base ≤ i ∧ i < base + x then v (i - base) else t i)
    (fun x s => h0 x s.1 s.2.1 s.2.2) (fun k x s => hs k x s.1 s.2.1 s.2.2) ?_ n 0 (t, l, out) (Nat.zero_add n)
    ⟨ho, rfl, fun i => (if_neg (by omega)).symm⟩
  intro x s hx ⟨ho', hl, ht⟩
  refine ⟨fun c hc => ?_, by rw [if_neg (Nat.succ_ne_zero x)]; rfl, fun i => ?_⟩
  · rcases List.mem_cons.mp hc with rfl | hc
    · rw [ht, if_neg (by omega), hl]; exact hG x hx
    · exact ho' c hc
  · show (if i = base + x then v x else s.1 i) = _
    rw [ht, run_snoc]

/-- The `n × n` blocks of one macroblock, row by row (`row y` is the loop of `blockRow_spec` for
    block row `y`). -/
theorem blockGrid_spec (emit : Nat → Nat → α → α → C) (v : Nat → Nat → α) (base n : Nat) (hn : 0 < n)
    {row : Nat → Nat → Nat → (Nat → α) → α → List C → (Nat → α) × α × List C}
    (hr0 : ∀ y x t l out, row y 0 x t l out = (t, l, out))
    (hrs : ∀ y k x t l out, row y (k + 1) x t l out =
      row y k (x + 1) (fun i => if i = base + x then v x y else t i) (v x y) (emit x y (t (base + x)) l :: out))
    {grid : Nat → Nat → (Nat → α) → (Nat → α) → List C → (Nat → α) × (Nat → α) × List C}
    (hg0 : ∀ y t lf out, grid 0 y t lf out = (t, lf, out))
    (hgs : ∀ k y t lf out, grid (k + 1) y t lf out =
      grid k (y + 1) (row y n 0 t (lf (base + y)) out).1
        (fun i => if i = base + y then (row y n 0 t (lf (base + y)) out).2.1 else lf i) (row y n 0 t (lf (base + y)) out).2.2)
    (G : C → Prop) (t lf : Nat → α) (out : List C) (ho : ∀ c ∈ out, G c)
    (hG : ∀ x y, x < n → y < n → G (emit x y (if y = 0 then t (base + x) else v x (y - 1))
      (if x = 0 then lf (base + y) else v (x - 1) y))) :
    (∀ c ∈ (grid n 0 t lf out).2.2, G c) ∧
    (∀ i, (grid n 0 t lf out).1 i = if base ≤ i ∧ i < base + n then v (i - base) (n - 1) else t i) ∧
    (∀ i, (grid n 0 t lf out).2.1 i = if base ≤ i ∧ i < base + n then v (n - 1) (i - base) else lf i) := by
  have main := loop_inv (σ := (Nat → α) × (Nat → α) × List C) (loop := fun k y s => grid k y s.1 s.2.1 s.2.2)
    (step := fun y s => ((row y n 0 s.1 (s.2.1 (base + y)) s.2.2).1,
      fun i => if i = base + y then (row y n 0 s.1 (s.2.1 (base + y)) s.2.2).2.1 else s.2.1 i,
      (row y n 0 s.1 (s.2.1 (base + y)) s.2.2).2.2))
    (Inv := fun y s => (∀ c ∈ s.2.2, G c) ∧
      (∀ i, s.1 i = if y = 0 then t i else if base ≤ i ∧ i < base + n then v (i - base) (y - 1) else t i) ∧
      ∀ i, s.2.1 i = if base ≤ i ∧ i < base + y then v (n - 1) (i - base) else lf i)
    (fun y s => hg0 y s.1 s.2.1 s.2.2) (fun k y s => hgs k y s.1 s.2.1 s.2.2) ?_ n 0 (t, lf, out) (Nat.zero_add n)
    ⟨ho, fun i => (if_pos rfl).symm, fun i => (if_neg (by omega)).symm⟩
  · obtain ⟨h1, h2, h3⟩ := main
    refine ⟨h1, fun i => ?_, h3⟩
    rw [h2, if_neg (by omega)]
  intro y s hy ⟨ho', ht, hl⟩
  have hT : ∀ x, x < n → s.1 (base + x) = if y = 0 then t (base + x) else v x (y - 1) := fun x hx => by
    rw [ht]
    by_cases hy0 : y = 0
    · rw [if_pos hy0, if_pos hy0]
    · rw [if_neg hy0, if_neg hy0, if_pos (by omega), Nat.add_sub_cancel_left]
  obtain ⟨r1, r2, r3⟩ := blockRow_spec (emit · y) (v · y) base (hr0 y) (hrs y) G n s.1 (s.2.1 (base + y)) s.2.2 ho'
    (fun x hx => by
      rw [hT x hx, hl, if_neg (show ¬(base ≤ base + y ∧ base + y < base + y) by omega)]; exact hG x y hx hy)
  refine ⟨r1, fun i => ?_, fun i => ?_⟩
  · show (row y n 0 s.1 (s.2.1 (base + y)) s.2.2).1 i = _
    rw [r3, if_neg (Nat.succ_ne_zero y)]
    by_cases hr : base ≤ i ∧ i < base + n
    · rw [if_pos hr, if_pos hr, Nat.add_sub_cancel]
    · rw [if_neg hr, if_neg hr, ht]
      by_cases hy0 : y = 0
      · rw [if_pos hy0]
      · rw [if_neg hy0, if_neg hr]
  · show (if i = base + y then _ else s.2.1 i) = _
    rw [r2, if_neg (Nat.ne_of_gt hn), hl, run_snoc (v (n - 1))]

end blocks

/-- block `x` of macroblock `a` lies in macroblock `a` -/
theorem mul_add_div_lt {n x : Nat} (a : Nat) (h : x < n) : (n * a + x) / n = a := by
  rw [Nat.mul_add_div (by omega), Nat.div_eq_of_lt h, Nat.add_zero]

/-- macroblock rows completed in column `c` when the decoder stands before macroblock (mbx, mby) -/
def doneRows (mbx mby c : Nat) : Nat := if c < mbx then mby + 1 else mby

section tracks
variable {α : Type}

/-- Before macroblock (mbx, mby), `n` entries (at the indices `ix`) of every column's `top` and
    of `left` are a function of how far the scan has come: `topVal c d` after `d` macroblock rows
    in column `c`, `leftVal mby m` after `m` macroblocks of row `mby`. -/
structure Tracks (W : Nat) (topVal leftVal : Nat → Nat → Nat → α) (ix : Nat → Nat) (n mbx mby : Nat)
    (top : Nat → Nat → α) (left : Nat → α) : Prop where
  top : ∀ c x, c < W → x < n → top c (ix x) = topVal c (doneRows mbx mby c) x
  left : ∀ y, y < n → left (ix y) = leftVal mby mbx y

variable {W : Nat} {topVal leftVal : Nat → Nat → Nat → α} {ix : Nat → Nat} {n mbx mby : Nat}
  {top : Nat → Nat → α} {left : Nat → α}

theorem Tracks.init {t0 l0 : α} (ht : ∀ c x, topVal c 0 x = t0) (hl : ∀ y, leftVal 0 0 y = l0) :
    Tracks W topVal leftVal ix n 0 0 (fun _ _ => t0) (fun _ => l0) :=
  ⟨fun c x _ _ => (ht c x).symm, fun y _ => (hl y).symm⟩

theorem Tracks.above (h : Tracks W topVal leftVal ix n mbx mby top left) (hx : mbx < W) (x : Nat) (hn : x < n) :
    top mbx (ix x) = topVal mbx mby x := by
  have := h.top mbx x hx hn
  rwa [doneRows, if_neg (Nat.lt_irrefl mbx)] at this

theorem Tracks.step (h : Tracks W topVal leftVal ix n mbx mby top left) {t' l' : Nat → α}
    (ht : ∀ x, x < n → t' (ix x) = topVal mbx (mby + 1) x) (hl : ∀ y, y < n → l' (ix y) = leftVal mby (mbx + 1) y) :
    Tracks W topVal leftVal ix n (mbx + 1) mby (fun c => if c = mbx then t' else top c) l' := by
  refine ⟨fun c x hc hx => ?_, hl⟩
  by_cases hcm : c = mbx
  · rw [if_pos hcm, hcm, doneRows, if_pos (Nat.lt_succ_self mbx)]; exact ht x hx
  · have : doneRows (mbx + 1) mby c = doneRows mbx mby c := by
      unfold doneRows
      by_cases hlt : c < mbx
      · rw [if_pos hlt, if_pos (by omega)]
      · rw [if_neg hlt, if_neg (by omega)]
    rw [if_neg hcm, this]; exact h.top c x hc hx

theorem Tracks.next_row (h : Tracks W topVal leftVal ix n W mby top left) {l0 : α} (hl : ∀ y, leftVal (mby + 1) 0 y = l0) :
    Tracks W topVal leftVal ix n 0 (mby + 1) top (fun _ => l0) := by
  refine ⟨fun c x hc hx => ?_, fun y _ => (hl y).symm⟩
  have := h.top c x hc hx
  rwa [doneRows, if_pos hc] at this

/-! A plane of blocks, `n × n` per macroblock; block (bx, by) of the frame has the value `V bx by`. -/

/-- the bottom block row of the `d` macroblock rows done in column `c` -/
def planeTop (dflt : α) (V : Nat → Nat → α) (n c d x : Nat) : α := if d = 0 then dflt else V (n * c + x) (n * d - 1)

/-- the right block column of the `m` macroblocks done in row `mby` -/
def planeLeft (dflt : α) (V : Nat → Nat → α) (n mby m y : Nat) : α := if m = 0 then dflt else V (n * m - 1) (n * mby + y)

/-- the neighbours of a block in its plane, `dflt` outside the frame -/
def above (dflt : α) (V : Nat → Nat → α) (bx by' : Nat) : α := if by' = 0 then dflt else V bx (by' - 1)
def leftOf (dflt : α) (V : Nat → Nat → α) (bx by' : Nat) : α := if bx = 0 then dflt else V (bx - 1) by'

variable {dflt : α} {V : Nat → Nat → α}

theorem planeTop_succ (hn : 0 < n) (c d x : Nat) : planeTop dflt V n c (d + 1) x = V (n * c + x) (n * d + (n - 1)) := by
  rw [planeTop, if_neg (Nat.succ_ne_zero d), Nat.mul_succ, Nat.add_sub_assoc hn]

theorem planeLeft_succ (hn : 0 < n) (mby m y : Nat) : planeLeft dflt V n mby (m + 1) y = V (n * m + (n - 1)) (n * mby + y) := by
  rw [planeLeft, if_neg (Nat.succ_ne_zero m), Nat.mul_succ, Nat.add_sub_assoc hn]

theorem Tracks.step_plane (hn : 0 < n) (h : Tracks W (planeTop dflt V n) (planeLeft dflt V n) ix n mbx mby top left)
    {v : Nat → Nat → α} (hv : ∀ x y, x < n → y < n → V (n * mbx + x) (n * mby + y) = v x y) {t' l' : Nat → α}
    (ht : ∀ x, x < n → t' (ix x) = v x (n - 1)) (hl : ∀ y, y < n → l' (ix y) = v (n - 1) y) :
    Tracks W (planeTop dflt V n) (planeLeft dflt V n) ix n (mbx + 1) mby (fun c => if c = mbx then t' else top c) l' :=
  h.step (fun x hx => (ht x hx).trans ((planeTop_succ hn mbx mby x).trans (hv x _ hx (Nat.sub_lt hn Nat.one_pos))).symm)
    (fun y hy => (hl y hy).trans ((planeLeft_succ hn mby mbx y).trans (hv _ y (Nat.sub_lt hn Nat.one_pos) hy)).symm)

/-- what `blockGrid_spec` feeds block (x, y) of macroblock (mbx, mby) from above is its neighbour
    above in the plane, when `v` are the plane's values inside the macroblock -/
theorem above_block (hn : 0 < n) {v : Nat → Nat → α} (hv : ∀ x y, x < n → y < n → V (n * mbx + x) (n * mby + y) = v x y)
    {x y : Nat} (hx : x < n) (hy : y < n) :
    (if y = 0 then planeTop dflt V n mbx mby x else v x (y - 1)) = above dflt V (n * mbx + x) (n * mby + y) := by
  unfold above planeTop
  by_cases hy0 : y = 0
  · rw [if_pos hy0, hy0, Nat.add_zero]
    by_cases hm : mby = 0
    · rw [if_pos hm, hm, Nat.mul_zero, if_pos rfl]
    · rw [if_neg hm, if_neg (Nat.mul_ne_zero (by omega) hm)]
  · rw [if_neg hy0, if_neg (by omega), ← hv x (y - 1) hx (by omega), Nat.add_sub_assoc (by omega)]

/-- the same across columns: `leftOf` and `planeLeft` are `above` and `planeTop` of the transposed plane -/
theorem leftOf_block (hn : 0 < n) {v : Nat → Nat → α} (hv : ∀ x y, x < n → y < n → V (n * mbx + x) (n * mby + y) = v x y)
    {x y : Nat} (hx : x < n) (hy : y < n) :
    (if x = 0 then planeLeft dflt V n mby mbx y else v (x - 1) y) = leftOf dflt V (n * mbx + x) (n * mby + y) :=
  above_block (V := fun a b => V b a) (v := fun a b => v b a) hn (fun y x hy hx => hv x y hx hy) hy hx

end tracks

end MbGrid
