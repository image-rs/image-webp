import WebpVerif.Model.LosslessTransforms
import WebpVerif.Spec.LosslessP
import Mathlib.Tactic.Ring

/-!
The inverse-transform drivers of `lossless_transform.rs` (models in `Model/LosslessTransforms.lean`)
against the specification's transforms (`VP8LP`): the RGBA byte buffer after the call, read as ARGB
pixels, is the specification's result on the buffer before the call.
-/
namespace LTrProof
open LTr LK

/-- pixel `p` of an RGBA byte buffer as the ARGB number of the specification -/
def pixAt (a : Array Nat) (p : Nat) : Nat :=
  VP8L.mk (a.getD (4 * p + 3) 0) (a.getD (4 * p) 0) (a.getD (4 * p + 1) 0) (a.getD (4 * p + 2) 0)

def pixels (a : Array Nat) : List Nat := (List.range (a.size / 4)).map (pixAt a)

def Bytes (a : Array Nat) : Prop := ∀ i, a.getD i 0 < 256

theorem forall_lt_four {P : Nat → Prop} (h0 : P 0) (h1 : P 1) (h2 : P 2) (h3 : P 3) : ∀ c, c < 4 → P c
  | 0, _ => h0
  | 1, _ => h1
  | 2, _ => h2
  | 3, _ => h3
  | _ + 4, h => absurd h (by omega)

theorem ch_mk (a r g b : Nat) (ha : a < 256) (hr : r < 256) (hg : g < 256) (hb : b < 256) :
    VP8L.ch (VP8L.mk a r g b) 0 = b ∧ VP8L.ch (VP8L.mk a r g b) 1 = g ∧
    VP8L.ch (VP8L.mk a r g b) 2 = r ∧ VP8L.ch (VP8L.mk a r g b) 3 = a := by
  unfold VP8L.ch VP8L.mk
  omega

theorem ch_lt (P k : Nat) : VP8L.ch P k < 256 := Nat.mod_lt _ (by decide)

theorem ch_pixAt (a : Array Nat) (hb : Bytes a) (p : Nat) :
    VP8L.ch (pixAt a p) 0 = a.getD (4 * p + 2) 0 ∧ VP8L.ch (pixAt a p) 1 = a.getD (4 * p + 1) 0 ∧
    VP8L.ch (pixAt a p) 2 = a.getD (4 * p) 0 ∧ VP8L.ch (pixAt a p) 3 = a.getD (4 * p + 3) 0 :=
  ch_mk _ _ _ _ (hb _) (hb _) (hb _) (hb _)

theorem getD_ofFn (n : Nat) (f : Fin n → Nat) (i : Nat) (h : i < n) : (Array.ofFn f).getD i 0 = f ⟨i, h⟩ := by
  simp [Array.getD, h]

theorem getD_of_size_le (a : Array Nat) (j : Nat) (h : a.size ≤ j) : a.getD j 0 = 0 := by
  rw [Array.getD_eq_getD_getElem?, Array.getElem?_eq_none h]; rfl

theorem pixAt_congr (a b : Array Nat) (p : Nat) (h0 : a.getD (4 * p) 0 = b.getD (4 * p) 0) (h1 : a.getD (4 * p + 1) 0 = b.getD (4 * p + 1) 0)
    (h2 : a.getD (4 * p + 2) 0 = b.getD (4 * p + 2) 0) (h3 : a.getD (4 * p + 3) 0 = b.getD (4 * p + 3) 0) : pixAt a p = pixAt b p := by
  unfold pixAt; rw [h0, h1, h2, h3]

theorem pixAt_of_getD (b : Array Nat) (f : Nat → Nat) (p : Nat) (h : ∀ c, c < 4 → b.getD (4 * p + c) 0 = f c) :
    pixAt b p = VP8L.mk (f 3) (f 0) (f 1) (f 2) := by
  unfold pixAt
  rw [h 1 (by decide), h 2 (by decide), h 3 (by decide), show b.getD (4 * p) 0 = f 0 from h 0 (by decide)]

theorem pixels_length (a : Array Nat) : (pixels a).length = a.size / 4 := by simp [pixels]

theorem pixels_getD (a : Array Nat) (k : Nat) (h : k < a.size / 4) : (pixels a).getD k 0 = pixAt a k := by
  unfold pixels
  rw [List.getD_eq_getElem?_getD, List.getElem?_map, List.getElem?_range h]
  rfl

/-- also for `k` outside the image: both sides are 0 -/
theorem pixels_toArray_getD (d : Array Nat) (h4 : d.size % 4 = 0) (k : Nat) : (pixels d).toArray.getD k 0 = pixAt d k := by
  rw [Array.getD_eq_getD_getElem?, List.getElem?_toArray, ← List.getD_eq_getElem?_getD]
  by_cases hk : k < d.size / 4
  · exact pixels_getD d k hk
  · have h : d.size ≤ 4 * k := by omega
    rw [List.getD_eq_getElem?_getD, List.getElem?_eq_none (by rw [pixels_length]; exact Nat.le_of_not_lt hk)]
    unfold pixAt
    rw [getD_of_size_le d _ h, getD_of_size_le d _ (Nat.le_add_right_of_le h), getD_of_size_le d _ (Nat.le_add_right_of_le h),
      getD_of_size_le d _ (Nat.le_add_right_of_le h)]
    rfl

theorem pixels_map (a b : Array Nat) (f : Nat → Nat) (hs : b.size = a.size)
    (h : ∀ p, p < a.size / 4 → pixAt b p = f (pixAt a p)) : pixels b = (pixels a).map f := by
  unfold pixels
  rw [hs, List.map_map]
  apply List.map_congr_left
  intro p hp
  exact h p (List.mem_range.mp hp)

theorem subGreenAt_at (a : Array Nat) (p c : Nat) (hc : c < 4) (hp : 4 * p + 4 ≤ a.size) :
    subGreenAt a (4 * p + c) =
      if c = 0 ∨ c = 2 then (a.getD (4 * p + c) 0 + a.getD (4 * p + 1) 0) % 256 else a.getD (4 * p + c) 0 := by
  unfold subGreenAt addGreen
  rw [Nat.mul_add_mod, Nat.mod_eq_of_lt hc, Nat.mul_add_div (by decide), Nat.div_eq_of_lt hc, Nat.add_zero p, Nat.mul_comm p 4]
  simp only [hp, and_true]

theorem getD_applySubGreen (a : Array Nat) (i : Nat) (h : i < a.size) : (applySubGreen a).getD i 0 = subGreenAt a i := by
  unfold applySubGreen; exact getD_ofFn _ _ _ h

theorem size_applySubGreen (a : Array Nat) : (applySubGreen a).size = a.size := by
  unfold applySubGreen; exact Array.size_ofFn

theorem invSubGreenPx_mk (A R G B : Nat) (hA : A < 256) (hR : R < 256) (hG : G < 256) (hB : B < 256) :
    VP8LP.invSubGreenPx (VP8L.mk A R G B) = VP8L.mk A ((R + G) % 256) G ((B + G) % 256) := by
  obtain ⟨c0, c1, c2, c3⟩ := ch_mk A R G B hA hR hG hB
  unfold VP8LP.invSubGreenPx
  rw [c0, c1, c2, c3]

theorem subGreen_px (a : Array Nat) (hb : Bytes a) (p : Nat) (hp : p < a.size / 4) :
    pixAt (applySubGreen a) p = VP8LP.invSubGreenPx (pixAt a p) := by
  have h4 : 4 * p + 4 ≤ a.size := by omega
  rw [pixAt_of_getD _ _ p fun c hc =>
    (getD_applySubGreen a _ (Nat.lt_of_lt_of_le (Nat.add_lt_add_left hc _) h4)).trans (subGreenAt_at a p c hc h4)]
  exact (invSubGreenPx_mk _ _ _ _ (hb _) (hb _) (hb _) (hb _)).symm

theorem subGreen_is_spec (a : Array Nat) (hb : Bytes a) :
    pixels (applySubGreen a) = (pixels a).map VP8LP.invSubGreenPx :=
  pixels_map a (applySubGreen a) _ (size_applySubGreen a) (subGreen_px a hb)

theorem toI8_natAbs (v : Nat) (h : v < 256) : (toI8 v).natAbs ≤ 128 := by unfold toI8; split <;> omega

theorem color_delta_eq : ∀ t < 256, ∀ c < 256, ∀ x < 256,
    (LK.addDelta x t c : Int) = ((x : Int) + VP8L.colorDeltaFloor t c) % 256 := by
  intro t ht c hc x hx
  -- the product of two int8 values lies in [−16384, 16384]: reducing it mod 2^32 adds 2^32 or nothing
  have hp : (toI8 t * toI8 c).natAbs ≤ 128 * 128 := by
    rw [Int.natAbs_mul]; exact Nat.mul_le_mul (toI8_natAbs t ht) (toI8_natAbs c hc)
  unfold LK.addDelta LK.colorDeltaU32 VP8L.colorDeltaFloor
  rw [show VP8L.toInt8 = toI8 from rfl, Int.fdiv_eq_ediv_of_nonneg _ (by decide)]
  generalize toI8 t * toI8 c = p at *
  omega

/-- red and blue of the colour transform: the code's wrapping sums are the specification's signed ones -/
theorem color_arith (R G B g2r g2b r2b : Nat) (hR : R < 256) (hG : G < 256) (hB : B < 256)
    (h1 : g2r < 256) (h2 : g2b < 256) (h3 : r2b < 256) :
    (((R : Int) + VP8L.colorDeltaFloor g2r G) % 256).toNat = addDelta R g2r G ∧
    ((((B : Int) + VP8L.colorDeltaFloor g2b G) % 256 + VP8L.colorDeltaFloor r2b (addDelta R g2r G)) % 256).toNat =
      (B + colorDeltaU32 g2b G + colorDeltaU32 r2b (addDelta R g2r G)) % 256 := by
  have hR' : addDelta R g2r G < 256 := Nat.mod_lt _ (by decide)
  have hB' : addDelta B g2b G < 256 := Nat.mod_lt _ (by decide)
  rw [← color_delta_eq g2r h1 G hG R hR, ← color_delta_eq g2b h2 G hG B hB,
    ← color_delta_eq r2b h3 _ hR' _ hB', Int.toNat_natCast, Int.toNat_natCast]
  exact ⟨rfl, Nat.mod_add_mod _ _ _⟩

theorem invColorPx_mk (e A R G B : Nat) (hA : A < 256) (hR : R < 256) (hG : G < 256) (hB : B < 256) :
    VP8LP.invColorPx e (VP8L.mk A R G B) =
      VP8L.mk A (addDelta R (VP8L.ch e 0) G) G
        ((B + colorDeltaU32 (VP8L.ch e 1) G + colorDeltaU32 (VP8L.ch e 2) (addDelta R (VP8L.ch e 0) G)) % 256) := by
  obtain ⟨c0, c1, c2, c3⟩ := ch_mk A R G B hA hR hG hB
  obtain ⟨a1, a2⟩ := color_arith R G B _ _ _ hR hG hB (ch_lt e 0) (ch_lt e 1) (ch_lt e 2)
  unfold VP8LP.invColorPx
  simp only [c0, c1, c2, c3, a1, a2]

/-- index, in the transform's sub-image, of the block that holds pixel `p` -/
def blockIdx (w bits p : Nat) : Nat := ((p / w) / 2 ^ bits) * VP8L.subSize w bits + (p % w) / 2 ^ bits

theorem invColor_eq (bits : Nat) (data : Array Nat) (w : Nat) (l : List Nat) (i : Nat) :
    VP8LP.invColor bits data w l i =
      (List.range l.length).map fun k => VP8LP.invColorPx (data.getD (blockIdx w bits (i + k)) 0) (l.getD k 0) := by
  induction l generalizing i with
  | nil => rfl
  | cons p rest ih =>
    have e : VP8LP.invColor bits data w (p :: rest) i =
        VP8LP.invColorPx (data.getD (blockIdx w bits i) 0) p :: VP8LP.invColor bits data w rest (i + 1) := rfl
    rw [e, ih (i + 1), List.length_cons, List.range_succ_eq_map, List.map_cons]
    refine List.cons_eq_cons.mpr ⟨rfl, ?_⟩
    conv => rhs; rw [List.map_map]
    apply List.map_congr_left
    intro k _
    show VP8LP.invColorPx (data.getD (blockIdx w bits (i + 1 + k)) 0) (rest.getD k 0) =
      VP8LP.invColorPx (data.getD (blockIdx w bits (i + (k + 1))) 0) ((p :: rest).getD (k + 1) 0)
    rw [Nat.add_right_comm i 1 k]; rfl

theorem colorAt_at (w bits : Nat) (d a : Array Nat) (p c : Nat) (hc : c < 4) :
    colorAt w bits d a (4 * p + c) =
      if c = 0 then addDelta (a.getD (4 * p) 0) (d.getD (4 * blockIdx w bits p + 2) 0) (a.getD (4 * p + 1) 0)
      else if c = 2 then (a.getD (4 * p + 2) 0 + colorDeltaU32 (d.getD (4 * blockIdx w bits p + 1) 0) (a.getD (4 * p + 1) 0) +
        colorDeltaU32 (d.getD (4 * blockIdx w bits p) 0)
          (addDelta (a.getD (4 * p) 0) (d.getD (4 * blockIdx w bits p + 2) 0) (a.getD (4 * p + 1) 0))) % 256
      else a.getD (4 * p + c) 0 := by
  unfold colorAt
  rw [Nat.mul_add_mod, Nat.mod_eq_of_lt hc, Nat.mul_add_div (by decide), Nat.div_eq_of_lt hc]
  rfl

theorem getD_applyColor (w h bits : Nat) (d a : Array Nat) (hs : a.size = 4 * w * h) (hw : 0 < w) (i : Nat) (hi : i < a.size) :
    (applyColor w bits d a).getD i 0 = colorAt w bits d a i := by
  unfold applyColor
  rw [getD_ofFn _ _ _ hi]
  have hq : i / (4 * w) < h := by
    rw [Nat.div_lt_iff_lt_mul (Nat.mul_pos (by decide) hw), Nat.mul_comm, ← hs]; exact hi
  have : i / (4 * w) * (4 * w) + 4 * w ≤ a.size := by
    rw [hs, Nat.mul_comm (4 * w) h, ← Nat.succ_mul]; exact Nat.mul_le_mul_right _ hq
  simp only
  rw [if_pos this]

theorem size_applyColor (w bits : Nat) (d a : Array Nat) : (applyColor w bits d a).size = a.size := by
  unfold applyColor; exact Array.size_ofFn

theorem color_px (w h bits : Nat) (d a : Array Nat) (hb : Bytes a) (hd : Bytes d) (hd4 : d.size % 4 = 0)
    (hs : a.size = 4 * w * h) (hw : 0 < w) (p : Nat) (hp : p < a.size / 4) :
    pixAt (applyColor w bits d a) p = VP8LP.invColorPx ((pixels d).toArray.getD (blockIdx w bits p) 0) (pixAt a p) := by
  obtain ⟨e0, e1, e2, _⟩ := ch_pixAt d hd (blockIdx w bits p)
  rw [pixels_toArray_getD d hd4,
    pixAt_of_getD _ _ p fun c hc => (getD_applyColor w h bits d a hs hw _ (by omega)).trans (colorAt_at w bits d a p c hc),
    show pixAt a p = VP8L.mk _ _ _ _ from rfl, invColorPx_mk _ _ _ _ _ (hb _) (hb _) (hb _) (hb _), e0, e1, e2]
  rfl

theorem color_is_spec (w h bits : Nat) (d a : Array Nat) (hb : Bytes a) (hd : Bytes d) (hd4 : d.size % 4 = 0)
    (hs : a.size = 4 * w * h) (hw : 0 < w) :
    pixels (applyColor w bits d a) = VP8LP.invColor bits (pixels d).toArray w (pixels a) 0 := by
  rw [invColor_eq, pixels_length]
  conv_lhs => rw [pixels, size_applyColor]
  apply List.map_congr_left
  intro p hp
  have hp := List.mem_range.mp hp
  rw [Nat.zero_add, pixels_getD a p hp]
  exact color_px w h bits d a hb hd hd4 hs hw p hp

/-- the four bytes `[r, g, b, a]` of an ARGB pixel -/
def bytesOf (P : Nat) : List Nat := [VP8L.ch P 2, VP8L.ch P 1, VP8L.ch P 0, VP8L.ch P 3]
def packL (v : List Nat) : Nat := VP8L.mk (v.getD 3 0) (v.getD 0 0) (v.getD 1 0) (v.getD 2 0)
/-- byte index → channel number -/
def chanOf (c : Nat) : Nat := if c = 0 then 2 else if c = 2 then 0 else c

/-- equal in all four channels (`packL (bytesOf X)` need not be `X`: a pixel is any number, read modulo 2^32) -/
def SameCh (X Y : Nat) : Prop := VP8L.ch X 0 = VP8L.ch Y 0 ∧ VP8L.ch X 1 = VP8L.ch Y 1 ∧ VP8L.ch X 2 = VP8L.ch Y 2 ∧ VP8L.ch X 3 = VP8L.ch Y 3

theorem sameCh_packL_bytesOf (X : Nat) : SameCh (packL (bytesOf X)) X := by
  obtain ⟨c0, c1, c2, c3⟩ := ch_mk _ _ _ _ (ch_lt X 3) (ch_lt X 2) (ch_lt X 1) (ch_lt X 0)
  exact ⟨c0, c1, c2, c3⟩

theorem chanOf_lt (c : Nat) (hc : c < 4) : chanOf c < 4 := by unfold chanOf; split <;> (try split) <;> omega

theorem getD_bytesOf (P c : Nat) (hc : c < 4) : (bytesOf P).getD c 0 = VP8L.ch P (chanOf c) :=
  forall_lt_four (P := fun c => (bytesOf P).getD c 0 = VP8L.ch P (chanOf c)) rfl rfl rfl rfl c hc

theorem bytesOf_lt (P c : Nat) : (bytesOf P).getD c 0 < 256 := by
  by_cases hc : c < 4
  · rw [getD_bytesOf P c hc]; exact ch_lt _ _
  · rw [List.getD_eq_getElem?_getD, List.getElem?_eq_none (Nat.le_of_not_lt hc)]
    decide

theorem chans_eq_bytesOf (f : Nat → Nat) (X : Nat) (h : ∀ c, c < 4 → f c = (bytesOf X).getD c 0) : chans f = bytesOf X := by
  unfold chans
  rw [h 0 (by decide), h 1 (by decide), h 2 (by decide), h 3 (by decide)]; rfl

theorem ch_perCh (f : Nat → Nat) (k : Nat) (hk : k < 4) : VP8L.ch (VP8L.perCh f) k = f k % 256 := by
  have m : ∀ n, n % 256 < 256 := fun n => Nat.mod_lt n (by decide)
  obtain ⟨h0, h1, h2, h3⟩ := ch_mk (f 3 % 256) (f 2 % 256) (f 1 % 256) (f 0 % 256) (m _) (m _) (m _) (m _)
  exact forall_lt_four (P := fun k => VP8L.ch (VP8L.perCh f) k = f k % 256) h0 h1 h2 h3 k hk

theorem ch_avg2 (p q k : Nat) (hk : k < 4) : VP8L.ch (VP8L.avg2 p q) k = (VP8L.ch p k + VP8L.ch q k) / 2 := by
  unfold VP8L.avg2; rw [ch_perCh _ k hk]
  have h := Nat.add_lt_add (ch_lt p k) (ch_lt q k)
  exact Nat.mod_eq_of_lt (Nat.div_lt_of_lt_mul h)

theorem clamp_eq (v : Int) : VP8L.clamp v = (min (max v 0) 255).toNat := by
  unfold VP8L.clamp; split <;> (try split) <;> omega

theorem clampFull_eq (a b c : Nat) : LK.clampAddSubFull a b c = VP8L.clamp ((a : Int) + b - c) := (clamp_eq _).symm

theorem clampHalf_eq (a b : Nat) : LK.clampAddSubHalf a b = VP8L.clamp ((a : Int) + Int.tdiv ((a : Int) - b) 2) :=
  (clamp_eq _).symm

theorem clamp_lt (v : Int) : VP8L.clamp v < 256 := by rw [clamp_eq]; omega

theorem ch_full (a b c k : Nat) (hk : k < 4) :
    VP8L.ch (VP8L.clampAddSubFull a b c) k = LK.clampAddSubFull (VP8L.ch a k) (VP8L.ch b k) (VP8L.ch c k) := by
  unfold VP8L.clampAddSubFull
  rw [ch_perCh _ k hk, Nat.mod_eq_of_lt (clamp_lt _), clampFull_eq]

theorem ch_half (a b k : Nat) (hk : k < 4) :
    VP8L.ch (VP8L.clampAddSubHalf a b) k = LK.clampAddSubHalf (VP8L.ch a k) (VP8L.ch b k) := by
  unfold VP8L.clampAddSubHalf
  rw [ch_perCh _ k hk, Nat.mod_eq_of_lt (clamp_lt _), clampHalf_eq]

theorem getD_avg2 (p q c : Nat) (hc : c < 4) :
    (bytesOf (VP8L.avg2 p q)).getD c 0 = average2 ((bytesOf p).getD c 0) ((bytesOf q).getD c 0) := by
  simp only [getD_bytesOf _ c hc, ch_avg2 _ _ _ (chanOf_lt c hc), average2]

theorem getD_full (p q r c : Nat) (hc : c < 4) :
    (bytesOf (VP8L.clampAddSubFull p q r)).getD c 0 =
      clampAddSubFull ((bytesOf p).getD c 0) ((bytesOf q).getD c 0) ((bytesOf r).getD c 0) := by
  simp only [getD_bytesOf _ c hc, ch_full _ _ _ _ (chanOf_lt c hc)]

theorem getD_half (p q c : Nat) (hc : c < 4) :
    (bytesOf (VP8L.clampAddSubHalf p q)).getD c 0 = clampAddSubHalf ((bytesOf p).getD c 0) ((bytesOf q).getD c 0) := by
  simp only [getD_bytesOf _ c hc, ch_half _ _ _ (chanOf_lt c hc)]

theorem select_eq (L T TL : Nat) :
    VP8L.select L T TL =
      if LK.selectLeft [VP8L.ch L 0, VP8L.ch L 1, VP8L.ch L 2, VP8L.ch L 3] [VP8L.ch T 0, VP8L.ch T 1, VP8L.ch T 2, VP8L.ch T 3]
          [VP8L.ch TL 0, VP8L.ch TL 1, VP8L.ch TL 2, VP8L.ch TL 3] then L else T := by
  unfold VP8L.select LK.selectLeft
  have : List.range 4 = [0, 1, 2, 3] := rfl
  simp only [this, decide_eq_true_eq, List.map_cons, List.map_nil, List.getD_cons_zero, List.getD_cons_succ]

/-- the decision sums over the four bytes, in whatever order they stand -/
theorem selectLeft_bytesOf (L T TL : Nat) :
    selectLeft (bytesOf L) (bytesOf T) (bytesOf TL) =
      selectLeft [VP8L.ch L 0, VP8L.ch L 1, VP8L.ch L 2, VP8L.ch L 3] [VP8L.ch T 0, VP8L.ch T 1, VP8L.ch T 2, VP8L.ch T 3]
        [VP8L.ch TL 0, VP8L.ch TL 1, VP8L.ch TL 2, VP8L.ch TL 3] := by
  unfold selectLeft bytesOf
  have : List.range 4 = [0, 1, 2, 3] := rfl
  simp only [this, List.map_cons, List.map_nil, List.sum_cons, List.sum_nil, List.getD_cons_zero, List.getD_cons_succ]
  rw [Bool.eq_iff_iff, decide_eq_true_iff, decide_eq_true_iff]
  omega

theorem bytesOf_select (L T TL : Nat) :
    bytesOf (VP8L.select L T TL) = if selectLeft (bytesOf L) (bytesOf T) (bytesOf TL) then bytesOf L else bytesOf T := by
  rw [select_eq, selectLeft_bytesOf]
  split <;> rfl

/-- **the fourteen predictor bodies are the specification's predictors**: on the bytes of any four
    neighbour pixels they give the bytes of the specification's prediction -/
theorem predPx_bytesOf (L T TR TL : Nat) : ∀ m, m < 14 →
    predPx m (bytesOf L) (bytesOf T) (bytesOf TR) (bytesOf TL) = bytesOf (VP8L.predict m L T TR TL)
  | 0, _ => by show [0, 0, 0, 255] = bytesOf 0xff000000; decide
  | 1, _ => rfl
  | 2, _ => rfl
  | 3, _ => rfl
  | 4, _ => rfl
  | 5, _ => by
    unfold predPx
    exact chans_eq_bytesOf _ (VP8L.avg2 (VP8L.avg2 L TR) T) fun c hc => by rw [getD_avg2 _ _ c hc, getD_avg2 _ _ c hc]
  | 6, _ => chans_eq_bytesOf _ (VP8L.avg2 L TL) fun c hc => (getD_avg2 _ _ c hc).symm
  | 7, _ => chans_eq_bytesOf _ (VP8L.avg2 L T) fun c hc => (getD_avg2 _ _ c hc).symm
  | 8, _ => chans_eq_bytesOf _ (VP8L.avg2 TL T) fun c hc => (getD_avg2 _ _ c hc).symm
  | 9, _ => chans_eq_bytesOf _ (VP8L.avg2 T TR) fun c hc => (getD_avg2 _ _ c hc).symm
  | 10, _ => by
    unfold predPx
    exact chans_eq_bytesOf _ (VP8L.avg2 (VP8L.avg2 L TL) (VP8L.avg2 T TR)) fun c hc => by
      rw [getD_avg2 _ _ c hc, getD_avg2 _ _ c hc, getD_avg2 _ _ c hc]
  | 11, _ => (bytesOf_select L T TL).symm
  | 12, _ => chans_eq_bytesOf _ (VP8L.clampAddSubFull L T TL) fun c hc => (getD_full _ _ _ c hc).symm
  | 13, _ => by
    unfold predPx
    exact chans_eq_bytesOf _ (VP8L.clampAddSubHalf (VP8L.avg2 L T) TL) fun c hc => by
      rw [getD_half _ _ c hc, getD_avg2 _ _ c hc]; rfl
  | _ + 14, h => absurd h (by omega)

end LTrProof
