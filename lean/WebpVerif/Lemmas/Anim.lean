import WebpVerif.Spec.Canvas

/-! `composite_frame` and `read_frame` against the canvas specification. A canvas is described pixel
by pixel (`Shows c cw ch g`); one compositing call turns `g` into `stepPx … (g x y) x y`
(`compositeFrame_shows`), so after `k` frames the canvas shows the specification's fold over the
history (`StateAt`, `readFrame_out`). -/

namespace Anim
open Blend Canvas

theorem rowMap_size (c : Array Px) (base n : Nat) (f : Nat → Px → Px) : (rowMap c base n f).size = c.size := by
  unfold rowMap
  induction n with
  | zero => simp
  | succ n ih => rw [List.range_succ, List.foldl_append]; simp [ih]

theorem rowMap_get (c : Array Px) (base n : Nat) (f : Nat → Px → Px) (j : Nat) :
    (rowMap c base n f)[j]? = if base ≤ j ∧ j < base + n then (c[j]?).map (f (j - base)) else c[j]? := by
  unfold rowMap
  induction n with
  | zero => exact (if_neg (by omega)).symm
  | succ n ih =>
    rw [List.range_succ, List.foldl_append, List.foldl_cons, List.foldl_nil,
      Array.getElem?_modify, ih]
    by_cases h : base + n = j
    · subst h
      rw [if_pos rfl, if_neg fun h => Nat.lt_irrefl _ h.2,
        if_pos ⟨Nat.le_add_right .., Nat.lt_succ_self _⟩, Nat.add_sub_cancel_left]
    · rw [if_neg h]
      congr 1
      exact propext (by omega)

theorem rectMap_size (c : Array Px) (cw : Nat) (r : Rect) (f : Nat → Nat → Px → Px) :
    (rectMap c cw r f).size = c.size := by
  unfold rectMap
  induction r.h with
  | zero => simp
  | succ n ih => rw [List.range_succ, List.foldl_append]; simp [ih, rowMap_size]

theorem row_mem (cw x y r px pw : Nat) (hx : x < cw) (hp : px + pw ≤ cw) :
    (r * cw + px ≤ y * cw + x ∧ y * cw + x < r * cw + px + pw) ↔ (y = r ∧ px ≤ x ∧ x < px + pw) := by
  constructor
  · intro ⟨h1, h2⟩
    have hy : (y * cw + x) / cw = y :=
      Nat.div_eq_of_lt_le (Nat.le_add_right ..) (Nat.succ_mul .. ▸ Nat.add_lt_add_left hx _)
    have hr : (y * cw + x) / cw = r :=
      Nat.div_eq_of_lt_le (Nat.le_trans (Nat.le_add_right ..) h1) (by rw [Nat.succ_mul]; omega)
    obtain rfl : y = r := hy.symm.trans hr
    omega
  · rintro ⟨rfl, h1, h2⟩; omega

theorem rectMap_get (c : Array Px) (cw : Nat) (r : Rect) (f : Nat → Nat → Px → Px)
    (hr : r.x + r.w ≤ cw) (x y : Nat) (hx : x < cw) :
    (rectMap c cw r f)[y * cw + x]? =
      if inRect r x y then (c[y * cw + x]?).map (f (x - r.x) (y - r.y)) else c[y * cw + x]? := by
  have key : ∀ n, ((List.range n).foldl
        (fun c y => rowMap c ((r.y + y) * cw + r.x) r.w (fun x => f x y)) c)[y * cw + x]? =
      if r.x ≤ x ∧ x < r.x + r.w ∧ r.y ≤ y ∧ y < r.y + n then
        (c[y * cw + x]?).map (f (x - r.x) (y - r.y))
      else c[y * cw + x]? := by
    intro n
    induction n with
    | zero => exact (if_neg (by omega)).symm
    | succ n ih =>
      rw [List.range_succ, List.foldl_append, List.foldl_cons, List.foldl_nil, rowMap_get, ih]
      have hm := row_mem cw x y (r.y + n) r.x r.w hx hr
      by_cases hrow : y = r.y + n ∧ r.x ≤ x ∧ x < r.x + r.w
      · obtain ⟨rfl, h1, h2⟩ := hrow
        rw [if_pos (hm.mpr ⟨rfl, h1, h2⟩), if_neg fun h => Nat.lt_irrefl _ h.2.2.2,
          if_pos ⟨h1, h2, Nat.le_add_right .., Nat.lt_succ_self _⟩, Nat.add_sub_add_left,
          Nat.add_sub_cancel_left]
      · rw [if_neg (mt hm.mp hrow)]
        congr 1
        exact propext (by omega)
  rw [rectMap, key r.h]
  simp only [inRect, Bool.and_eq_true, decide_eq_true_eq, and_assoc]

theorem flat_lt (cw ch x y : Nat) (hx : x < cw) (hy : y < ch) : y * cw + x < cw * ch :=
  Nat.lt_of_lt_of_le (Nat.add_lt_add_left hx _)
    (Nat.mul_comm cw ch ▸ Nat.succ_mul y cw ▸ Nat.mul_le_mul_right cw hy)

theorem inside_iff (r : Rect) (cw ch : Nat) : r.inside cw ch = true ↔ r.x + r.w ≤ cw ∧ r.y + r.h ≤ ch := by
  unfold Rect.inside; simp

/-- the frame as `stepPx` wants it -/
def asFrame (frame : Array Px) (fr : Rect) (hasAlpha useBlend : Bool) : Frame :=
  { rect := fr, duration := 0, useBlend := useBlend, dispose := false, hasAlpha := hasAlpha, pixels := frame }

/-- the canvas `c` of `cw × ch` pixels holds `g x y` at `(x, y)` -/
def Shows (c : Array Px) (cw ch : Nat) (g : Nat → Nat → Px) : Prop :=
  c.size = cw * ch ∧ ∀ x y, x < cw → y < ch → c[y * cw + x]? = some (g x y)

theorem shows_getD {c : Array Px} {cw ch : Nat} (hc : c.size = cw * ch) :
    Shows c cw ch fun x y => c.getD (y * cw + x) ⟨0, 0, 0, 0⟩ :=
  ⟨hc, fun x y hx hy => by
    have hlt : y * cw + x < c.size := hc ▸ flat_lt cw ch x y hx hy
    rw [Array.getElem?_eq_getElem hlt]; exact congrArg some (by simp [Array.getD, hlt])⟩

theorem Shows.congr {c : Array Px} {cw ch : Nat} {g g' : Nat → Nat → Px} (h : Shows c cw ch g)
    (hg : ∀ x y, x < cw → y < ch → g x y = g' x y) : Shows c cw ch g' :=
  ⟨h.1, fun x y hx hy => hg x y hx hy ▸ h.2 x y hx hy⟩

theorem Shows.rectMap {c : Array Px} {cw ch : Nat} {g : Nat → Nat → Px} (h : Shows c cw ch g)
    (r : Rect) (f : Nat → Nat → Px → Px) (hr : r.x + r.w ≤ cw) :
    Shows (rectMap c cw r f) cw ch fun x y =>
      if inRect r x y then f (x - r.x) (y - r.y) (g x y) else g x y :=
  ⟨(rectMap_size ..).trans h.1, fun x y hx hy => by
    rw [rectMap_get _ _ _ _ hr x y hx, h.2 x y hx hy]; dsimp only; cases inRect r x y <;> rfl⟩

/-- Inside the domain (both rectangles in the canvas, frame buffer of the rectangle's size) each of
    the three branches of `composite_frame` - full-canvas frame without blending, blend, copy -
    succeeds and does to every pixel what the specification's `stepPx` says, with `clear` as the
    disposal colour. -/
theorem compositeFrame_shows (canvas : Array Px) (cw ch : Nat) (clear : Option Px)
    (frame : Array Px) (fr : Rect) (hasAlpha useBlend : Bool) (prev : Rect)
    (hfr : fr.inside cw ch = true) (hprev : prev.inside cw ch = true)
    (hf : frame.size = fr.w * fr.h) {g : Nat → Nat → Px} (hc : Shows canvas cw ch g) :
    ∃ c', compositeFrame canvas cw ch clear frame fr hasAlpha useBlend prev = some c' ∧
      Shows c' cw ch fun x y => stepPx blendPixel (clear.getD ⟨0, 0, 0, 0⟩) clear.isSome prev
        (asFrame frame fr hasAlpha useBlend) (g x y) x y := by
  obtain ⟨hfx, hfy⟩ := (inside_iff fr cw ch).mp hfr
  obtain ⟨hpx, -⟩ := (inside_iff prev cw ch).mp hprev
  unfold compositeFrame
  rw [if_neg (by simp [hfr, hprev, hc.1, hf])]
  simp only []
  split
  · next hfull =>
    refine ⟨_, rfl, (hc.rectMap fr _ hfx).congr fun x y hx hy => ?_⟩
    simp only [Bool.and_eq_true, beq_iff_eq, Bool.not_eq_eq_eq_not, Bool.not_true] at hfull
    obtain ⟨⟨⟨⟨h0, h1⟩, h2⟩, h3⟩, h4⟩ := hfull
    have hin : inRect fr x y = true := by
      simp only [inRect, Bool.and_eq_true, decide_eq_true_eq]; omega
    simp [stepPx, asFrame, hin, h4]
  · have h1 : Shows (match clear with
          | some color => Anim.rectMap canvas cw prev (fun _ _ _ => color)
          | none => canvas) cw ch
        fun x y => if clear.isSome && inRect prev x y then clear.getD ⟨0, 0, 0, 0⟩ else g x y := by
      cases clear with
      | none => exact hc.congr (by simp)
      | some color => exact (hc.rectMap prev _ hpx).congr (by simp)
    split
    · next hb =>
      refine ⟨_, rfl, (h1.rectMap fr _ hfx).congr fun x y _ _ => ?_⟩
      simp only [Bool.and_eq_true] at hb
      simp [stepPx, asFrame, hb.1, hb.2]
    · next hb =>
      refine ⟨_, rfl, (h1.rectMap fr _ hfx).congr fun x y _ _ => ?_⟩
      simp [stepPx, asFrame, Bool.eq_false_iff.mpr hb]

theorem render_eq (ha : Bool) {c : Array Px} {cw ch : Nat} (hcw : 0 < cw) {g : Nat → Nat → Px}
    (hc : Shows c cw ch g) :
    render ha c = (List.range (cw * ch)).flatMap fun i =>
      let p := g (i % cw) (i / cw)
      if ha then [p.r, p.g, p.b, p.a] else [p.r, p.g, p.b] := by
  have hl : c.toList = (List.range (cw * ch)).map fun i => g (i % cw) (i / cw) := by
    apply List.ext_getElem?
    intro i
    rw [Array.getElem?_toList, List.getElem?_map]
    by_cases hi : i < cw * ch
    · have hy : i / cw < ch := (Nat.div_lt_iff_lt_mul hcw).mpr (Nat.mul_comm cw ch ▸ hi)
      have := hc.2 (i % cw) (i / cw) (Nat.mod_lt _ hcw) hy
      rw [Nat.div_add_mod'] at this
      rw [this, List.getElem?_range hi, Option.map_some]
    · rw [Array.getElem?_eq_none (by rw [hc.1]; omega),
        List.getElem?_eq_none (by rw [List.length_range]; omega)]
      rfl
  rw [render, hl, List.flatMap_map]

/-- history after `k` frames, latest first -/
def hist (f : File) (k : Nat) : List Frame := (f.frames.take k).reverse

theorem hist_succ (f : File) (k : Nat) (fr : Frame) (h : f.frames[k]? = some fr) :
    hist f (k + 1) = fr :: hist f k := by
  unfold hist
  rw [List.take_add_one, h]
  simp

/-- the model state after `k` delivered frames, characterised per pixel -/
def StateAt (f : File) (k : Nat) (st : State) : Prop :=
  st.nextFrame = k ∧
  (k = 0 → st.canvas = none ∧ st.disposeNext = true ∧ st.prev = ⟨0, 0, 0, 0⟩) ∧
  (0 < k → ∃ c last, st.canvas = some c ∧ c.size = f.cw * f.ch ∧
      f.frames[k - 1]? = some last ∧ st.prev = last.rect ∧ st.disposeNext = last.dispose ∧
      ∀ x y, x < f.cw → y < f.ch → c[y * f.cw + x]? = some (canvasPx blendPixel f.bg (hist f k) x y))

theorem stateAt_default (f : File) : StateAt f 0 State.default :=
  ⟨rfl, fun _ => ⟨rfl, rfl, rfl⟩, fun h => absurd h (Nat.lt_irrefl 0)⟩

theorem inRect_zero (x y : Nat) : inRect ⟨0, 0, 0, 0⟩ x y = false := by
  unfold inRect; simp

/-- what `read_frame` needs of a frame to deliver it: the two checks it makes itself (size at most
    16384, rectangle inside the canvas) and a decoded pixel buffer of the rectangle's size -/
def FrameOk (f : File) (fr : Frame) : Prop :=
  fr.rect.inside f.cw f.ch = true ∧ fr.rect.w ≤ 16384 ∧ fr.rect.h ≤ 16384 ∧ fr.pixels.size = fr.rect.w * fr.rect.h

/-- what a `read_frame` call starts from in the state after `k` frames: the canvas holds the
    specification's fold, and clearing the previous rectangle as the decoder's flags say is the
    disposal step of the specification (a fresh decoder "disposes" an empty rectangle) -/
theorem StateAt.start {f : File} {k : Nat} {st : State} (hst : StateAt f k st)
    (hok : ∀ g ∈ f.frames, FrameOk f g) :
    Shows (startCanvas f st) f.cw f.ch (canvasPx blendPixel f.bg (hist f k)) ∧
    st.prev.inside f.cw f.ch = true ∧
    ∀ fr x y, stepPx blendPixel ((clearOf f st).getD ⟨0, 0, 0, 0⟩) (clearOf f st).isSome st.prev fr
        (canvasPx blendPixel f.bg (hist f k) x y) x y =
      canvasPx blendPixel f.bg (fr :: hist f k) x y := by
  obtain ⟨-, h0, hpos⟩ := hst
  rcases Nat.eq_zero_or_pos k with rfl | hk
  · obtain ⟨hc, hd, hp⟩ := h0 rfl
    refine ⟨?_, by rw [hp]; rfl, fun fr x y => ?_⟩
    · rw [startCanvas, hc]
      exact ⟨Array.size_replicate, fun x y hx hy => by
        simp [flat_lt f.cw f.ch x y hx hy, hist, canvasPx]⟩
    · simp [clearOf, hd, hp, hist, canvasPx, stepPx, inRect_zero]
  · obtain ⟨c, last, hc, hsz, hlast, hprev, hdisp, hget⟩ := hpos hk
    have hh : hist f k = last :: hist f (k - 1) := by
      have := hist_succ f (k - 1) last hlast
      rwa [Nat.sub_add_cancel hk] at this
    refine ⟨?_, hprev ▸ (hok last (List.mem_of_getElem? hlast)).1, fun fr x y => ?_⟩
    · rw [startCanvas, hc]; exact ⟨hsz, hget⟩
    · rw [clearOf, hh, hprev, hdisp]
      cases hd : last.dispose <;> simp [canvasPx, stepPx, hd]

/-- **One `read_frame` call** from the state after `k` frames, frame `k` present: it succeeds, returns
    frame `k`'s duration and the specification's buffer, and leaves the state after `k + 1`
    frames, whose canvas is the specification's fold, pixel by pixel. -/
theorem readFrame_out (f : File) (hcw : 0 < f.cw) (hok : ∀ g ∈ f.frames, FrameOk f g) (k : Nat)
    (st : State) (fr : Frame) (hst : StateAt f k st) (hfr : f.frames[k]? = some fr) :
    (readFrame f st).1 = .frame fr.duration (frameBuf blendPixel f (k + 1)) ∧
    StateAt f (k + 1) (readFrame f st).2 := by
  obtain ⟨hin, hw, hh, hpx⟩ := hok fr (List.mem_of_getElem? hfr)
  obtain ⟨hix, hiy⟩ := (inside_iff fr.rect f.cw f.ch).mp hin
  obtain ⟨hshow, hprevin, hstep⟩ := hst.start hok
  obtain ⟨c, hcomp, hc⟩ := compositeFrame_shows _ f.cw f.ch (clearOf f st) fr.pixels fr.rect
    fr.hasAlpha fr.useBlend st.prev hin hprevin hpx hshow
  have hc' : Shows c f.cw f.ch (canvasPx blendPixel f.bg (hist f (k + 1))) :=
    hc.congr fun x y _ _ => by rw [hist_succ f k fr hfr, ← hstep]; rfl
  have hklt : k < f.frames.length := (List.getElem?_eq_some_iff.mp hfr).1
  have hrf : readFrame f st = (.frame fr.duration (render f.hasAlpha c),
      { nextFrame := k + 1, disposeNext := fr.dispose, prev := fr.rect, canvas := some c }) := by
    unfold readFrame
    rw [hst.1, if_neg (Nat.not_le_of_lt hklt), hfr]
    simp only
    rw [if_neg (by simp; omega), if_neg (by simp; omega), hcomp]
  rw [hrf]
  exact ⟨by rw [render_eq f.hasAlpha hcw hc']; rfl, rfl, nofun,
    fun _ => ⟨c, fr, rfl, hc'.1, by simpa using hfr, rfl, rfl, hc'.2⟩⟩

end Anim
