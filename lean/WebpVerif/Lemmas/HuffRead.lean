import WebpVerif.Model.Huffman
import WebpVerif.Spec.CodeLengths
import WebpVerif.Lemmas.CodeBits
import Mathlib.Data.List.Induction

/-!
`HuffmanTree::read_symbol` (model `Huff.readSym`) against the specification's `Prefix.decodeSym`:
a table/tree that answers every 16-bit peek starting with the code word of a symbol by that
symbol (`Good`) reads the same.  Before that, bit lists LSB first (`lsbVal`, `lsbBits`: stream
order) and MSB first (`msbVal`, `msbBits`: code words), with `reverseBits` between the two.
-/
namespace Huff
open Prefix

@[reducible] def Bits (p : List Nat) : Prop := ∀ b ∈ p, b < 2

theorem getD_mem (ls : List Nat) (k : Nat) (hk : k < ls.length) : ls.getD k 0 ∈ ls := by
  rw [List.getD_eq_getElem?_getD, List.getElem?_eq_getElem hk]; exact List.getElem_mem _

theorem mod_mod_pow (x a b : Nat) (h : a ≤ b) : x % 2 ^ b % 2 ^ a = x % 2 ^ a :=
  Nat.mod_mod_of_dvd x (Nat.pow_dvd_pow 2 h)

theorem lsbVal_append (a b : List Nat) : lsbVal (a ++ b) = lsbVal a + 2 ^ a.length * lsbVal b := by
  induction a with
  | nil => simp [lsbVal]
  | cons x a ih =>
    simp only [List.cons_append, lsbVal, ih, List.length_cons, Nat.pow_succ]
    rw [Nat.mul_add, ← Nat.mul_assoc, Nat.mul_comm 2 (2 ^ a.length)]
    exact (Nat.add_assoc _ _ _).symm

theorem lsbVal_lt (a : List Nat) (h : Bits a) : lsbVal a < 2 ^ a.length := by
  induction a with
  | nil => simp [lsbVal]
  | cons x a ih =>
    have hx := h x List.mem_cons_self
    have := ih (fun b hb => h b (List.mem_cons_of_mem _ hb))
    simp only [lsbVal, List.length_cons, Nat.pow_succ]
    omega

theorem lsbVal_zeros (n : Nat) : lsbVal (List.replicate n 0) = 0 := by
  induction n with
  | zero => rfl
  | succ n ih => simp [List.replicate_succ, lsbVal, ih]

theorem msbBits_length (c n : Nat) : (msbBits c n).length = n := by simp [msbBits]
theorem lsbBits_length (c n : Nat) : (lsbBits c n).length = n := by simp [lsbBits]

theorem lsbBits_mod (v n : Nat) : lsbBits (v % 2 ^ n) n = lsbBits v n := by
  unfold lsbBits
  apply List.map_congr_left
  intro k hk
  obtain ⟨j, rfl⟩ := Nat.exists_eq_add_of_lt (List.mem_range.mp hk)
  rw [Nat.add_assoc, Nat.pow_add, Nat.mod_mul_right_div_self, Nat.pow_succ, Nat.mod_mul_left_mod]

theorem lsbBits_split (v a : Nat) : ∀ b, lsbBits v (a + b) = lsbBits v a ++ lsbBits (v / 2 ^ a) b := by
  intro b
  induction b with
  | zero => simp [lsbBits]
  | succ b ih =>
    rw [← Nat.add_assoc, lsbBits_succ, lsbBits_mod, lsbBits_succ (v / 2 ^ a), lsbBits_mod, ih, List.append_assoc,
      Nat.div_div_eq_div_mul, ← Nat.pow_add]

theorem lsbBits_cons (v n : Nat) : lsbBits v (n + 1) = v % 2 :: lsbBits (v / 2) n := by
  rw [Nat.add_comm, lsbBits_split]
  simp [lsbBits]

theorem lsbVal_lsbBits : ∀ (n v : Nat), lsbVal (lsbBits v n) = v % 2 ^ n := by
  intro n
  induction n with
  | zero => intro v; rw [Nat.pow_zero, Nat.mod_one]; rfl
  | succ n ih =>
    intro v
    rw [lsbBits_succ, lsbVal_append, ih, lsbBits_length, Nat.mod_mod, Nat.mod_pow_succ]
    simp [lsbVal]

/-- the model's `lsbVal` and the specification's `bitsVal` are one function under two names -/
theorem lsbVal_eq : ∀ l : List Nat, lsbVal l = bitsVal l := by
  intro l
  induction l with
  | nil => rfl
  | cons b bs ih => rw [lsbVal, bitsVal, ih]

theorem msbBits_split (c b : Nat) : ∀ a, msbBits c (a + b) = msbBits (c / 2 ^ b) a ++ msbBits c b := by
  intro a
  induction a with
  | zero => rw [Nat.zero_add]; rfl
  | succ a ih =>
    rw [Nat.add_right_comm a 1 b, msbBits_cons, msbBits_cons, ih, List.cons_append, Nat.div_div_eq_div_mul, ← Nat.pow_add, Nat.add_comm b a]

/-- value of a bit list, first bit most significant, after `c` -/
def msbVal (c : Nat) (bits : List Nat) : Nat := bits.foldl (fun acc b => 2 * acc + b) c

theorem msbVal_snoc (a : List Nat) (x : Nat) : msbVal 0 (a ++ [x]) = 2 * msbVal 0 a + x := by
  unfold msbVal
  rw [List.foldl_append]
  rfl

theorem msbVal_msbBits : ∀ (n c : Nat), c < 2 ^ n → msbVal 0 (msbBits c n) = c := by
  intro n
  induction n with
  | zero => intro c h; simp at h; subst h; rfl
  | succ n ih =>
    intro c h
    rw [msbBits_snoc, msbVal_snoc, ih (c / 2) (Nat.div_lt_of_lt_mul (by rwa [Nat.pow_succ, Nat.mul_comm] at h))]
    exact Nat.div_add_mod c 2

theorem msbBits_msbVal : ∀ (a : List Nat), Bits a → msbBits (msbVal 0 a) a.length = a := by
  intro a
  induction a using List.reverseRecOn with
  | nil => intro _; rfl
  | append_singleton q x ih =>
    intro h
    have hx : x < 2 := h x (List.mem_append_right _ (List.mem_singleton_self x))
    rw [msbVal_snoc, List.length_append, List.length_singleton, msbBits_snoc, Nat.mul_add_div (Nat.succ_pos 1),
      Nat.div_eq_of_lt hx, Nat.add_zero, Nat.mul_add_mod, Nat.mod_eq_of_lt hx, ih fun b hb => h b (List.mem_append_left _ hb)]

theorem msbVal_lt : ∀ (a : List Nat), Bits a → msbVal 0 a < 2 ^ a.length := by
  intro a
  induction a using List.reverseRecOn with
  | nil => intro _; exact Nat.one_pos
  | append_singleton q x ih =>
    intro h
    have hx : x < 2 := h x (List.mem_append_right _ (List.mem_singleton_self x))
    have := ih fun b hb => h b (List.mem_append_left _ hb)
    rw [msbVal_snoc, List.length_append, List.length_singleton, Nat.pow_succ]
    omega

theorem reverse_inj (n a b : Nat) (ha : a < 2 ^ n) (hb : b < 2 ^ n) (h : reverseBits a n = reverseBits b n) : a = b := by
  have e : msbBits a n = msbBits b n := by rw [← lsb_reverse_eq_msb, ← lsb_reverse_eq_msb, h]
  rw [← msbVal_msbBits n a ha, ← msbVal_msbBits n b hb, e]

theorem reverse_mod (n : Nat) : ∀ (d c : Nat), reverseBits c (n + d) % 2 ^ n = reverseBits (c / 2 ^ d) n := by
  intro d
  induction d with
  | zero =>
    intro c
    rw [Nat.add_zero, Nat.pow_zero, Nat.div_one, EncHuff.reverseBits_eq, Nat.mod_eq_of_lt (EncHuff.bitSum_lt n c)]
  | succ d ih =>
    intro c
    rw [← Nat.add_assoc, EncHuff.reverseBits_eq, EncHuff.bitSum_rec, ← EncHuff.reverseBits_eq]
    have e : c % 2 * 2 ^ (n + d) = 2 ^ n * (c % 2 * 2 ^ d) := by rw [Nat.pow_add, Nat.mul_left_comm]
    rw [e, Nat.mul_add_mod, ih (c / 2), Nat.div_div_eq_div_mul, Nat.pow_succ, Nat.mul_comm 2]

theorem reverse_msbVal (a : List Nat) (h : Bits a) : reverseBits (msbVal 0 a) a.length = lsbVal a := by
  have := lsbVal_lsbBits a.length (reverseBits (msbVal 0 a) a.length)
  rw [lsb_reverse_eq_msb, msbBits_msbVal a h] at this
  rw [this, EncHuff.reverseBits_eq, Nat.mod_eq_of_lt (EncHuff.bitSum_lt _ _)]

/-- the structure answers every peek `v` that starts with the code word `c` of a symbol `s` (in
    stream order, the code word MSB first: the bit-reversed word in the low bits of `v`) by that
    symbol and its length -/
def Good (t : HT) (ls : List Nat) : Prop :=
  ∀ s c v, v < 65536 → canonicalCode ls s = some c → v % 2 ^ ls.getD s 0 = reverseBits c (ls.getD s 0) →
    look t v = some (s, ls.getD s 0)

theorem peek16_mod (taken rest : List Nat) (hl : taken.length ≤ 16) (h : Bits taken) :
    peek16 (taken ++ rest) % 2 ^ taken.length = lsbVal taken := by
  unfold peek16
  have e : (taken ++ rest).take 16 = taken ++ rest.take (16 - taken.length) := by
    rw [List.take_append, List.take_of_length_le hl]
  rw [e, lsbVal_append, Nat.add_mul_mod_self_left, Nat.mod_eq_of_lt (lsbVal_lt taken h)]

theorem peek16_lt (bits : List Nat) (h : Bits bits) : peek16 bits < 65536 := by
  unfold peek16
  have h1 := lsbVal_lt (bits.take 16) (fun b hb => h b (List.mem_of_mem_take hb))
  have h2 : (bits.take 16).length ≤ 16 := List.length_take_le 16 bits
  calc lsbVal (bits.take 16) < 2 ^ (bits.take 16).length := h1
    _ ≤ 2 ^ 16 := Nat.pow_le_pow_right (by decide) h2
    _ = 65536 := by decide

theorem peek16_pad (bits : List Nat) (n : Nat) : peek16 (bits ++ List.replicate n 0) = peek16 bits := by
  unfold peek16
  rw [List.take_append, lsbVal_append, List.take_replicate, lsbVal_zeros, Nat.mul_zero, Nat.add_zero]

/-- on a complete code (longest length `L`) the specification decodes a symbol from the stream
    padded with zeros to `L` bits or more, and a `Good` structure answers the peek by that symbol.
    Complete is `hend`: the code words of length `L` end at `2 ^ L` (`blockEnd`, Lemmas/PrefixFree.lean),
    which is Kraft equality at `L` (`EncHuff.kraft_eq_blockEnd`). -/
theorem look_decoded (t : HT) (ls : List Nat) (hgood : Good t ls) (hall : ∀ l ∈ ls, l ≤ 15) (L : Nat) (hL1 : 1 ≤ L) (hL : L ≤ 15)
    (hend : blockEnd ls L = 2 ^ L) (bits : List Nat) (hb : Bits bits) (k : Nat) (hlen : L ≤ bits.length + k) :
    ∃ s taken rest, decodeSym ls 15 0 0 (bits ++ List.replicate k 0) = some (s, rest) ∧
      bits ++ List.replicate k 0 = taken ++ rest ∧ ls.getD s 0 = taken.length ∧ canonicalCode ls s = some (msbVal 0 taken) ∧
      Bits taken ∧ look t (peek16 bits) = some (s, ls.getD s 0) := by
  have hbp : Bits (bits ++ List.replicate k 0) :=
    List.forall_mem_append.mpr ⟨hb, fun b h => by rw [(List.mem_replicate.mp h).2]; decide⟩
  obtain ⟨s, rest, hdec⟩ := decodeSym_total ls L hL1 hend 15 0 0 (bits ++ List.replicate k 0) (by rw [Nat.zero_add]; exact hL)
    (by rw [Nat.zero_add, List.length_append, List.length_replicate]; exact hlen) hbp (by decide) (Nat.le_of_eq rfl)
  obtain ⟨taken, e1, e2, e3⟩ := decodeSym_sound ls 15 0 0 _ s rest hdec
  rw [Nat.zero_add] at e2
  have hl15 : taken.length ≤ 15 := by rw [← e2]; exact hall _ (getD_mem ls s (canonical_some ls s _ e3).1)
  have htb : Bits taken := fun b hb' => hbp b (by rw [e1]; exact List.mem_append_left _ hb')
  refine ⟨s, taken, rest, hdec, e1, e2, e3, htb, hgood s _ (peek16 bits) (peek16_lt bits hb) e3 ?_⟩
  rw [← peek16_pad bits k, e2, e1, peek16_mod taken rest (Nat.le_succ_of_le hl15) htb]
  exact (reverse_msbVal taken htb).symm

theorem decodeSym_append (ls x : List Nat) : ∀ (fuel len code : Nat) (bits : List Nat) (s : Nat) (r : List Nat),
    decodeSym ls fuel len code bits = some (s, r) → decodeSym ls fuel len code (bits ++ x) = some (s, r ++ x) := by
  intro fuel
  induction fuel with
  | zero => intro len code bits s r h; cases h
  | succ fuel ih =>
    intro len code bits s r h
    cases bits with
    | nil => cases h
    | cons b tl =>
      rw [decodeSym] at h
      rw [List.cons_append, decodeSym]
      cases hs : symbolOf ls (len + 1) (2 * code + b) with
      | some s' =>
        rw [hs] at h
        obtain ⟨rfl, rfl⟩ := Prod.mk.inj (Option.some.inj h)
        rfl
      | none =>
        rw [hs] at h
        exact ih _ _ tl s r h

/-- a `Good` structure reads what the specification reads, on every complete code (longest
    length `L`) and every bit string - including the last bits of the data, where fewer bits are
    left than the longest code word: the reader peeks a zero-padded word and fails in `consume`
    exactly when the specification runs out of bits -/
theorem readSym_good_all (t : HT) (ls : List Nat) (hgood : Good t ls) (hall : ∀ l ∈ ls, l ≤ 15) (L : Nat) (hL1 : 1 ≤ L) (hL : L ≤ 15)
    (hend : blockEnd ls L = 2 ^ L) (bits : List Nat) (hb : ∀ b ∈ bits, b < 2) :
    readSym (.ok t) bits = decodeSym ls 15 0 0 bits := by
  obtain ⟨s, taken, restp, hdec, e1, e2, e3, htb, hlook⟩ := look_decoded t ls hgood hall L hL1 hL hend bits hb 15 (Nat.le_trans hL (Nat.le_add_left _ _))
  unfold readSym
  simp only [hlook]
  cases hd : decodeSym ls 15 0 0 bits with
  | some r =>
    -- what it decodes from the stream itself is the same symbol
    obtain ⟨s', r'⟩ := r
    have hp := decodeSym_append ls (List.replicate 15 0) 15 0 0 bits s' r' hd
    rw [hdec] at hp
    obtain ⟨rfl, _⟩ := Prod.mk.inj (Option.some.inj hp)
    obtain ⟨taken', f1, f2, _⟩ := decodeSym_sound ls 15 0 0 bits s r' hd
    rw [Nat.zero_add] at f2
    rw [if_neg (by rw [f2, f1, List.length_append]; exact Nat.not_lt_of_le (Nat.le_add_right _ _)), f2, f1, List.drop_left]
  | none =>
    -- it fails only where the stream is shorter than the word of `s`: otherwise that word is the
    -- beginning of the stream itself, and is decoded
    rw [if_pos]
    refine Nat.lt_of_not_le fun hlen => ?_
    have hl15 : taken.length ≤ 15 := by rw [← e2]; exact hall _ (getD_mem ls s (canonical_some ls s _ e3).1)
    have hbits : taken ++ bits.drop taken.length = bits := by
      conv_rhs => rw [← List.take_append_drop taken.length bits,
        ← List.take_append_of_le_length (l₂ := List.replicate 15 0) (e2 ▸ hlen), e1, List.take_left' rfl]
    have := decodeSym_canonical ls s _ 15 e3 (by rw [e2]; exact msbVal_lt taken htb) (e2 ▸ hl15) (bits.drop (ls.getD s 0))
    rw [e2, msbBits_msbVal taken htb, hbits, hd] at this
    cases this

end Huff
