/-!
Reading an array through `[i]!` or `getD` after `setIfInBounds`, `push` and a run of consecutive
writes - the forms in which the models of the lossless decoder's loops update their buffers.
-/
namespace ArrayWrites

theorem getD_push {α : Type} (a : Array α) (x d : α) (k : Nat) :
    (a.push x).getD k d = if k < a.size then a.getD k d else if k = a.size then x else d := by
  simp only [Array.getD_eq_getD_getElem?, Array.getElem?_push]
  by_cases h1 : k < a.size
  · rw [if_pos h1, if_neg (by omega)]
  · rw [if_neg h1]
    by_cases h2 : k = a.size
    · rw [if_pos h2, if_pos h2]; rfl
    · rw [if_neg h2, if_neg h2, Array.getElem?_eq_none (by omega)]; rfl

variable {α : Type} [Inhabited α]

theorem get_set (a : Array α) (i j : Nat) (v : α) :
    (a.setIfInBounds i v)[j]! = if j = i ∧ i < a.size then v else a[j]! := by
  rw [Array.getElem!_eq_getD, Array.getD_eq_getD_getElem?, Array.getElem?_setIfInBounds]
  by_cases h : i = j
  · subst h
    by_cases h2 : i < a.size
    · simp [h2]
    · simp [h2]
  · have : ¬ (j = i ∧ i < a.size) := by intro hh; exact h hh.1.symm
    rw [if_neg h, if_neg this, Array.getElem!_eq_getD, Array.getD_eq_getD_getElem?]

theorem get_set_ne (a : Array α) (i j : Nat) (v : α) (h : j ≠ i) : (a.setIfInBounds i v)[j]! = a[j]! := by
  rw [get_set, if_neg (fun hh => h hh.1)]

theorem get_set_self (a : Array α) (i : Nat) (v : α) (h : i < a.size) : (a.setIfInBounds i v)[i]! = v := by
  rw [get_set, if_pos ⟨rfl, h⟩]

theorem getD_set (arr : Array Nat) (i j v : Nat) :
    (arr.setIfInBounds i v).getD j 0 = if j = i ∧ i < arr.size then v else arr.getD j 0 := by
  have := get_set arr i j v
  rwa [Array.getElem!_eq_getD, Array.getElem!_eq_getD] at this

theorem get_zeros (n j : Nat) : (Array.replicate n 0)[j]! = 0 := by
  rw [Array.getElem!_eq_getD, Array.getD_eq_getD_getElem?, Array.getElem?_replicate]
  split <;> rfl

theorem arr_ext (a b : Array α) (hs : a.size = b.size) (h : ∀ p, p < a.size → a[p]! = b[p]!) : a = b := by
  apply Array.ext hs
  intro i h1 h2
  have := h i h1
  rw [Array.getElem!_eq_getD, Array.getD_eq_getD_getElem?, Array.getElem?_eq_getElem h1,
    Array.getElem!_eq_getD, Array.getD_eq_getD_getElem?, Array.getElem?_eq_getElem h2] at this
  simpa using this

theorem writes_spec (f : Nat → Nat) (out : Nat) (d : Array Nat) : ∀ n,
    ((List.range n).foldl (fun d t => d.setIfInBounds (out + t) (f t)) d).size = d.size ∧
    ∀ p, ((List.range n).foldl (fun d t => d.setIfInBounds (out + t) (f t)) d)[p]! =
      if out ≤ p ∧ p < out + n ∧ p < d.size then f (p - out) else d[p]! := by
  intro n
  induction n with
  | zero => exact ⟨rfl, fun p => by rw [if_neg (by omega)]; rfl⟩
  | succ n ih =>
    obtain ⟨i1, i2⟩ := ih
    rw [List.range_succ, List.foldl_append, List.foldl_cons, List.foldl_nil]
    refine ⟨by rw [Array.size_setIfInBounds, i1], fun p => ?_⟩
    rw [get_set, i1, i2 p]
    by_cases hp : p = out + n ∧ out + n < d.size
    · rw [if_pos hp, if_pos ⟨by omega, by omega, by omega⟩]
      congr 1; omega
    · rw [if_neg hp]
      by_cases hc : out ≤ p ∧ p < out + n ∧ p < d.size
      · rw [if_pos hc, if_pos ⟨hc.1, by omega, hc.2.2⟩]
      · rw [if_neg hc, if_neg (by omega)]

end ArrayWrites
