import WebpVerif.Lemmas.Arith
import WebpVerif.Spec.BoolDec
import Mathlib.Tactic.IntervalCases
import Mathlib.Tactic.Ring

/-!
Refinement of the crate's boolean decoder model (`Arith`) to the RFC 6386 decoder (`BoolDec`).
Both are shown to be finite-precision views of one *ideal* decoder whose state is the range, the
8-bit integer part `hi` of the code value, and the number `tpos` of stream bits shifted into it.
-/
namespace ArithRfc
open BoolDec (byteAt)

/-- bit `i` of the stream, most significant bit of each byte first; zero beyond the data -/
def bitAt (data : List Nat) (i : Nat) : Nat := (byteAt data (i / 8) / 2 ^ (7 - i % 8)) % 2

/-- the big-endian number formed by the stream bits `t, …, t+n-1` -/
def win (data : List Nat) (t : Nat) : Nat → Nat
  | 0 => 0
  | n + 1 => win data t n * 2 + bitAt data (t + n)

theorem bitAt_lt (data : List Nat) (i : Nat) : bitAt data i < 2 := Nat.mod_lt _ (by decide)

theorem win_lt (data : List Nat) (t n : Nat) : win data t n < 2 ^ n := by
  induction n with
  | zero => simp [win]
  | succ n ih => have := bitAt_lt data (t + n); simp only [win, Nat.pow_succ]; omega

theorem win_add (data : List Nat) (t a b : Nat) :
    win data t (a + b) = win data t a * 2 ^ b + win data (t + a) b := by
  induction b with
  | zero => simp [win]
  | succ b ih =>
    rw [← Nat.add_assoc]; simp only [win]; rw [ih, Nat.pow_succ, Nat.add_assoc t a b]; ring

theorem win_one (data : List Nat) (t : Nat) : win data t 1 = bitAt data t := by simp [win]

theorem win_succ_left (data : List Nat) (t n : Nat) :
    win data t (n + 1) = bitAt data t * 2 ^ n + win data (t + 1) n := by
  rw [Nat.add_comm n 1, win_add, win_one]

theorem getD_lt (l : List Nat) (h : ∀ b ∈ l, b < 256) (k : Nat) : l.getD k 0 < 256 := by
  rw [List.getD_eq_getElem?_getD]
  cases h' : l[k]? with
  | none => decide
  | some v => exact h v (List.mem_of_getElem? h')

theorem byteAt_lt (data : List Nat) (h : ∀ b ∈ data, b < 256) (k : Nat) : byteAt data k < 256 :=
  getD_lt data h k

theorem bitAt_byte (data : List Nat) (k j : Nat) (hj : j < 8) :
    bitAt data (8 * k + j) = byteAt data k / 2 ^ (7 - j) % 2 := by
  unfold bitAt
  rw [Nat.mul_add_div (by decide), Nat.div_eq_of_lt hj, Nat.add_zero, Nat.mul_add_mod, Nat.mod_eq_of_lt hj]

theorem win_byte_prefix (data : List Nat) (h : ∀ b ∈ data, b < 256) (k n : Nat) (hn : n ≤ 8) :
    win data (8 * k) n = byteAt data k / 2 ^ (8 - n) := by
  induction n with
  | zero => exact (Nat.div_eq_of_lt (byteAt_lt data h k)).symm
  | succ n ih =>
    rw [win, ih (Nat.le_of_succ_le hn), bitAt_byte data k n hn, Nat.succ_sub (Nat.le_of_lt_succ hn), Nat.pow_succ,
      ← Nat.div_div_eq_div_mul, Nat.succ_sub_succ]
    exact Nat.div_add_mod' _ 2

theorem win_byte (data : List Nat) (h : ∀ b ∈ data, b < 256) (k : Nat) : win data (8 * k) 8 = byteAt data k := by
  rw [win_byte_prefix data h k 8 (Nat.le_refl 8), Nat.sub_self, Nat.pow_zero, Nat.div_one]

theorem win_bytes4 (data : List Nat) (h : ∀ b ∈ data, b < 256) (i : Nat) :
    win data (32 * i) 32 =
      Arith.be32 (byteAt data (4 * i)) (byteAt data (4 * i + 1)) (byteAt data (4 * i + 2)) (byteAt data (4 * i + 3)) := by
  have e0 : 32 * i = 8 * (4 * i) := Nat.mul_assoc 8 4 i
  have e1 : 32 * i + 8 = 8 * (4 * i + 1) := by rw [Nat.mul_add_one, e0]
  have e2 : 32 * i + 8 + 8 = 8 * (4 * i + 2) := by rw [e1, ← Nat.mul_add_one]
  have e3 : 32 * i + 8 + 8 + 8 = 8 * (4 * i + 3) := by rw [e2, ← Nat.mul_add_one]
  have s : (32 : Nat) = 8 + 8 + 8 + 8 := rfl
  rw [s, win_add, win_add, win_add, e3, e2, e1, e0, win_byte _ h, win_byte _ h, win_byte _ h, win_byte _ h]
  unfold Arith.be32; ring

/-- state of the ideal decoder: the range, the integer part `hi` of the code value, and the number
    `tpos` of stream bits shifted into `hi` so far -/
structure Ideal where
  range : Nat
  hi : Nat
  tpos : Nat
deriving DecidableEq, Repr

/-- shift `n` stream bits into the integer part -/
def Ideal.norm (data : List Nat) (n : Nat) (I : Ideal) : Ideal :=
  ⟨I.range * 2 ^ n, I.hi * 2 ^ n + win data I.tpos n, I.tpos + n⟩

def Ideal.shift (data : List Nat) (I : Ideal) : Ideal := ⟨I.range * 2, I.hi * 2 + bitAt data I.tpos, I.tpos + 1⟩

/-- one decision: compare `hi` with the split, keep the chosen part of the range, shift in the
    `normShift` bits that bring the range back into `128..=255` -/
def Ideal.readBool (data : List Nat) (I : Ideal) (p : Nat) : Bool × Ideal :=
  if I.hi ≥ Arith.splitOf I.range p then
    (true, Ideal.norm data (Arith.normShift (I.range - Arith.splitOf I.range p))
      ⟨I.range - Arith.splitOf I.range p, I.hi - Arith.splitOf I.range p, I.tpos⟩)
  else (false, Ideal.norm data (Arith.normShift (Arith.splitOf I.range p)) ⟨Arith.splitOf I.range p, I.hi, I.tpos⟩)

/-- between reads: the range is normalised and the code value lies inside it -/
def IInv (I : Ideal) : Prop := 128 ≤ I.range ∧ I.range ≤ 255 ∧ I.hi < I.range

theorem norm_zero (data : List Nat) (I : Ideal) : Ideal.norm data 0 I = I := by
  cases I; simp [Ideal.norm, win]

theorem norm_succ (data : List Nat) (n : Nat) (I : Ideal) :
    Ideal.norm data (n + 1) I = Ideal.norm data n (Ideal.shift data I) := by
  simp only [Ideal.norm, Ideal.shift, win_succ_left, Nat.pow_succ]
  refine congr (congr (congrArg Ideal.mk ?_) ?_) ?_ <;> ring

theorem norm_inv (data : List Nat) (rt hi t : Nat) (h1 : 1 ≤ rt) (h2 : rt ≤ 255) (hlt : hi < rt) :
    IInv (Ideal.norm data (Arith.normShift rt) ⟨rt, hi, t⟩) := by
  obtain ⟨n1, n2, _⟩ := Arith.normShift_spec rt h1 h2
  have hw := win_lt data t (Arith.normShift rt)
  have : (hi + 1) * 2 ^ Arith.normShift rt ≤ rt * 2 ^ Arith.normShift rt := Nat.mul_le_mul_right _ hlt
  rw [Nat.add_mul] at this
  exact ⟨n1, n2, by simp only [Ideal.norm]; omega⟩

/-! ### the RFC decoder is the ideal decoder with a 16-bit register -/

/-- Of the `pos` bytes read, the last sits in the low byte of `value` and only `bitCount` of its
    bits have been shifted into the high byte, hence `tpos = 8 * (pos - 1) + bitCount`. -/
def absS (s : BoolDec.St) : Ideal := ⟨s.range, s.value / 256, 8 * (s.pos - 1) + s.bitCount⟩

/-- the low byte of `value` holds the `8 - bit_count` stream bits that follow the integer part,
    left-aligned -/
def SInv (s : BoolDec.St) : Prop :=
  2 ≤ s.pos ∧ s.bitCount < 8 ∧
  s.value % 256 = win s.data (8 * (s.pos - 1) + s.bitCount) (8 - s.bitCount) * 2 ^ s.bitCount

/-- one iteration of the RFC's normalisation loop -/
def specShift (s : BoolDec.St) : BoolDec.St :=
  if s.bitCount + 1 = 8 then
    { s with value := s.value * 2 + byteAt s.data s.pos, pos := s.pos + 1, range := s.range * 2, bitCount := 0 }
  else { s with value := s.value * 2, range := s.range * 2, bitCount := s.bitCount + 1 }

theorem renorm_unfold (fuel : Nat) (s : BoolDec.St) :
    BoolDec.renorm (fuel + 1) s = if s.range < 128 then BoolDec.renorm fuel (specShift s) else s := by
  unfold specShift
  rw [BoolDec.renorm]
  by_cases h : s.range < 128
  · simp only [h, if_true]
    by_cases hb : s.bitCount + 1 = 8
    · simp only [hb, if_true]
    · simp only [hb, if_false]
  · simp only [h, if_false]

/-- doubling a 16-bit register whose low byte is `b * 128 + w`, with `x` coming in from below: `b`
    moves into the high byte -/
theorem double_split (v b w x : Nat) (hv : v % 256 = b * 128 + w) (hwx : w * 2 + x < 256) :
    (v * 2 + x) % 256 = w * 2 + x ∧ (v * 2 + x) / 256 = v / 256 * 2 + b := by omega

theorem specShift_spec (s : BoolDec.St) (hb : ∀ b ∈ s.data, b < 256) (h : SInv s) :
    SInv (specShift s) ∧ absS (specShift s) = Ideal.shift s.data (absS s) := by
  obtain ⟨data, pos, value, range, bc, need⟩ := s
  obtain ⟨hp, hbc, hv⟩ := h
  simp only at hp hbc hv hb
  unfold specShift
  by_cases h8 : bc + 1 = 8
  · -- the register's low byte is used up: the next byte comes in
    obtain rfl : bc = 7 := Nat.succ_injective h8
    rw [if_pos h8]
    rw [show 8 - 7 = 1 from rfl, win_one, show 2 ^ 7 = 128 from rfl, ← Nat.add_zero (_ * 128)] at hv
    obtain ⟨e1, e2⟩ := double_split value _ 0 (byteAt data pos) hv
      (by rw [Nat.zero_mul, Nat.zero_add]; exact byteAt_lt data hb pos)
    refine ⟨⟨Nat.le_succ_of_le hp, Nat.zero_lt_succ 7, ?_⟩, ?_⟩
    · show (value * 2 + byteAt data pos) % 256 = win data (8 * pos + 0) 8 * 2 ^ 0
      rw [Nat.add_zero, win_byte data hb pos, Nat.pow_zero, Nat.mul_one, e1, Nat.zero_mul, Nat.zero_add]
    · show Ideal.mk (range * 2) ((value * 2 + byteAt data pos) / 256) (8 * pos + 0) = _
      rw [e2, Nat.add_zero, show 8 * pos = 8 * (pos - 1) + 7 + 1 by omega]
      rfl
  · -- the top bit of the low byte moves into the integer part; the remaining bits move up
    have hbc7 : bc ≤ 6 := Nat.le_of_lt_succ (Nat.lt_of_le_of_ne (Nat.le_of_lt_succ hbc) fun e => h8 (e ▸ rfl))
    rw [if_neg h8]
    rw [show 8 - bc = 7 - bc + 1 from Nat.sub_add_comm (n := 7) (m := 1) (Nat.le_succ_of_le hbc7), win_succ_left] at hv
    have hp2 : 2 ^ (7 - bc) * 2 ^ bc = 128 := by
      rw [← Nat.pow_add, Nat.sub_add_cancel (Nat.le_succ_of_le hbc7)]
    have hW := hp2 ▸ Nat.mul_lt_mul_of_pos_right (win_lt data (8 * (pos - 1) + bc + 1) (7 - bc)) (Nat.two_pow_pos bc)
    rw [Nat.add_mul, Nat.mul_assoc, hp2] at hv
    obtain ⟨e1, e2⟩ := double_split value _ _ 0 hv (Nat.mul_lt_mul_of_pos_right hW (by decide : 0 < 2))
    refine ⟨⟨hp, Nat.succ_lt_succ (Nat.lt_succ_of_le hbc7), ?_⟩, ?_⟩
    · show (value * 2) % 256 = win data (8 * (pos - 1) + bc + 1) (8 - (bc + 1)) * 2 ^ (bc + 1)
      rw [Nat.succ_sub_succ, Nat.pow_succ, ← Nat.mul_assoc]; exact e1
    · show Ideal.mk (range * 2) (value * 2 / 256) (8 * (pos - 1) + bc + 1) = _
      rw [show value * 2 / 256 = _ from e2]; rfl

theorem specShift_fields (s : BoolDec.St) :
    (specShift s).need = s.need ∧ (specShift s).data = s.data ∧ (specShift s).range = s.range * 2 := by
  unfold specShift; split <;> exact ⟨rfl, rfl, rfl⟩

theorem renorm_need_data (fuel : Nat) : ∀ s : BoolDec.St,
    (BoolDec.renorm fuel s).need = s.need ∧ (BoolDec.renorm fuel s).data = s.data := by
  induction fuel with
  | zero => intro s; exact ⟨rfl, rfl⟩
  | succ fuel ih =>
    intro s
    rw [renorm_unfold]
    by_cases h : s.range < 128
    · rw [if_pos h, (ih (specShift s)).1, (ih (specShift s)).2]
      exact ⟨(specShift_fields s).1, (specShift_fields s).2.1⟩
    · rw [if_neg h]; exact ⟨rfl, rfl⟩

theorem shift_hi_lt (data : List Nat) (I : Ideal) (h : I.hi < I.range) :
    (Ideal.shift data I).hi < (Ideal.shift data I).range := by
  have := bitAt_lt data I.tpos; simp only [Ideal.shift]; omega

theorem renorm_spec (fuel : Nat) : ∀ (s : BoolDec.St), (∀ b ∈ s.data, b < 256) → SInv s →
    1 ≤ s.range → s.range ≤ 255 → s.value / 256 < s.range → Arith.normShift s.range ≤ fuel →
    SInv (BoolDec.renorm fuel s) ∧
    absS (BoolDec.renorm fuel s) = Ideal.norm s.data (Arith.normShift s.range) (absS s) := by
  induction fuel with
  | zero =>
    intro s _ hs h1 h2 _ hf
    have h128 : 128 ≤ s.range := by
      by_contra hlt
      have := Arith.normShift_double s.range h1 (Nat.lt_of_not_le hlt); omega
    rw [Arith.normShift_zero _ h128 h2, norm_zero]
    exact ⟨hs, rfl⟩
  | succ fuel ih =>
    intro s hb hs h1 h2 hh hf
    rw [renorm_unfold]
    by_cases h128 : s.range < 128
    · rw [if_pos h128]
      obtain ⟨a1, a2⟩ := specShift_spec s hb hs
      obtain ⟨_, hd, hr⟩ := specShift_fields s
      have hn := Arith.normShift_double s.range h1 h128
      have hhi : (specShift s).value / 256 < (specShift s).range := by
        have := shift_hi_lt s.data (absS s) hh
        rw [← a2] at this; exact this
      obtain ⟨b1, b2⟩ := ih (specShift s) (by rw [hd]; exact hb) a1 (by rw [hr]; omega) (by rw [hr]; omega) hhi
        (by rw [hr, Nat.mul_comm]; omega)
      refine ⟨b1, ?_⟩
      rw [b2, hd, a2, hr, hn, norm_succ, Nat.mul_comm]
    · rw [if_neg h128, Arith.normShift_zero _ (Nat.le_of_not_lt h128) h2, norm_zero]
      exact ⟨hs, rfl⟩

/-- bytes a decision of the ideal decoder at `tpos` depends on -/
def needOf (tpos : Nat) : Nat := (tpos + 7) / 8

theorem needOf_le (tpos n : Nat) : needOf tpos ≤ n ↔ tpos ≤ 8 * n := by
  unfold needOf; omega

theorem neededAtDecision_eq (s : BoolDec.St) (h : SInv s) : BoolDec.neededAtDecision s = needOf (absS s).tpos := by
  obtain ⟨hp, hb, _⟩ := h
  unfold BoolDec.neededAtDecision needOf absS
  split <;> (simp only; omega)

theorem spec_readBool (s : BoolDec.St) (p : Nat) (hp : p < 256) (hb : ∀ b ∈ s.data, b < 256)
    (hs : SInv s) (hi : IInv (absS s)) :
    (BoolDec.readBool s p).1 = (Ideal.readBool s.data (absS s) p).1 ∧
    absS (BoolDec.readBool s p).2 = (Ideal.readBool s.data (absS s) p).2 ∧ SInv (BoolDec.readBool s p).2 := by
  obtain ⟨r1, r2, r3⟩ := hi
  simp only [absS] at r1 r2 r3
  obtain ⟨a, b⟩ := Arith.splitOf_bounds s.range p r1 r2 hp
  have hsplit : 1 + (s.range - 1) * p / 256 = Arith.splitOf s.range p := by
    unfold Arith.splitOf; rw [Nat.shiftRight_eq_div_pow]
  -- a decision leaves the low byte of `value` alone; then both renormalise alike
  have key : ∀ value range need : Nat, value % 256 = s.value % 256 → 1 ≤ range → range ≤ 255 → value / 256 < range →
      SInv (BoolDec.renorm 8 ⟨s.data, s.pos, value, range, s.bitCount, need⟩) ∧
      absS (BoolDec.renorm 8 ⟨s.data, s.pos, value, range, s.bitCount, need⟩) =
        Ideal.norm s.data (Arith.normShift range) ⟨range, value / 256, (absS s).tpos⟩ :=
    fun value range need hlow h1 h2 hh =>
      renorm_spec 8 ⟨s.data, s.pos, value, range, s.bitCount, need⟩ hb ⟨hs.1, hs.2.1, hlow.trans hs.2.2⟩ h1 h2 hh
        (Nat.le_trans (Arith.normShift_spec range h1 h2).2.2 (by decide))
  unfold BoolDec.readBool Ideal.readBool
  simp only [hsplit]
  by_cases hd : s.value ≥ Arith.splitOf s.range p * 256
  · have hd2 : 256 * Arith.splitOf s.range p ≤ s.value := Nat.mul_comm _ _ ▸ hd
    have hd' : (absS s).hi ≥ Arith.splitOf (absS s).range p := (Nat.le_div_iff_mul_le (by decide)).mpr hd
    have hdiv : (s.value - Arith.splitOf s.range p * 256) / 256 = s.value / 256 - Arith.splitOf s.range p := by
      rw [Nat.mul_comm]; exact Nat.sub_mul_div _ _ _
    rw [if_pos hd, if_pos hd']
    obtain ⟨c1, c2⟩ := key (s.value - Arith.splitOf s.range p * 256) (s.range - Arith.splitOf s.range p) _
      (by rw [Nat.mul_comm]; exact Nat.sub_mul_mod hd2) (Nat.sub_pos_of_lt b) (Nat.le_trans (Nat.sub_le _ _) r2)
      (by rw [hdiv]; exact Nat.sub_lt_sub_right hd' r3)
    exact ⟨rfl, c2.trans (by rw [hdiv]; rfl), c1⟩
  · have hd' : ¬ (absS s).hi ≥ Arith.splitOf (absS s).range p :=
      fun h => hd ((Nat.le_div_iff_mul_le (by decide)).mp h)
    rw [if_neg hd, if_neg hd']
    obtain ⟨c1, c2⟩ := key s.value (Arith.splitOf s.range p) _ rfl a (Nat.le_trans (Nat.le_of_lt b) r2) (Nat.lt_of_not_le hd')
    exact ⟨rfl, c2, c1⟩

theorem readBool_need_data (s : BoolDec.St) (p : Nat) :
    (BoolDec.readBool s p).2.need = max s.need (BoolDec.neededAtDecision s) ∧ (BoolDec.readBool s p).2.data = s.data := by
  unfold BoolDec.readBool
  simp only
  split <;> exact renorm_need_data 8 _

theorem spec_bool_mono (s : BoolDec.St) (p : Nat) :
    s.need ≤ (BoolDec.readBool s p).2.need ∧ (BoolDec.readBool s p).2.data = s.data :=
  ⟨(readBool_need_data s p).1 ▸ Nat.le_max_left _ _, (readBool_need_data s p).2⟩

theorem spec_literal_mono (n : Nat) : ∀ (s : BoolDec.St) (v : Nat),
    s.need ≤ (BoolDec.readLiteral n s v).2.need ∧ (BoolDec.readLiteral n s v).2.data = s.data := by
  induction n with
  | zero => intro s v; exact ⟨Nat.le_refl _, rfl⟩
  | succ n ih =>
    intro s v
    unfold BoolDec.readLiteral BoolDec.readFlag
    obtain ⟨a, b⟩ := spec_bool_mono s 128
    obtain ⟨c, e⟩ := ih (BoolDec.readBool s 128).2 (v * 2 + (BoolDec.readBool s 128).1.toNat)
    exact ⟨Nat.le_trans a c, by rw [e, b]⟩

/-! ### the crate's decoder is the ideal decoder with a 64-bit register loaded in chunks -/

def nC (data : List Nat) : Nat := data.length / 4
def nT (data : List Nat) : Nat := data.length % 4
/-- bytes taken from the trailing 0..3 bytes so far (the tolerated zero pad byte counts) -/
def tailLoaded (data : List Nat) (d : Arith.Dec) : Nat := ((nT data : Int) - d.finalBytesRemaining).toNat
/-- bytes shifted into `value` so far -/
def loadedBytes (data : List Nat) (d : Arith.Dec) : Nat := 4 * d.state.chunkIndex + tailLoaded data d

/-- `hc` to `hfb`: the chunks and trailing bytes are those of `data`, consumed up to `loadedBytes`;
    `hr` to `hv2`: the register holds the ideal integer part followed by `bit_count` more stream
    bits, or, while `bit_count` is negative, lacks its last `-bit_count` bits -/
structure Rel (data : List Nat) (d : Arith.Dec) (I : Ideal) : Prop where
  hc : d.chunks = (Arith.splitChunks data #[]).1
  hidx : d.state.chunkIndex ≤ nC data
  hf1 : -1 ≤ d.finalBytesRemaining
  hf2 : d.finalBytesRemaining ≤ nT data
  hpre : d.state.chunkIndex < nC data → d.finalBytesRemaining = nT data
  hlen : d.finalBytes.length = 3
  hfb : ∀ k : Nat, (k : Int) < d.finalBytesRemaining →
      d.finalBytes.getD k 0 = byteAt data (4 * nC data + tailLoaded data d + k)
  hr : d.state.range = I.range
  hbc : -8 ≤ d.state.bitCount ∧ d.state.bitCount ≤ 31
  hpos : (I.tpos : Int) + d.state.bitCount = 8 * (loadedBytes data d : Int)
  hv1 : ∀ b : Nat, d.state.bitCount = (b : Int) → d.state.value = I.hi * 2 ^ b + win data I.tpos b
  hv2 : ∀ m : Nat, d.state.bitCount = -(m : Int) → 0 < m →
      I.hi = d.state.value * 2 ^ m + win data (8 * loadedBytes data d) m
  hi : IInv I

theorem chunks_size (data : List Nat) : (Arith.splitChunks data #[]).1.size = nC data := by
  have := (Arith.splitChunks_spec data #[]).1; simpa [nC] using this

theorem chunk_eq (data : List Nat) (hb : ∀ b ∈ data, b < 256) (i : Nat) (hi : i < nC data) :
    (Arith.splitChunks data #[]).1[i]? = some (win data (32 * i) 32) := by
  have := (Arith.splitChunks_spec data #[]).2.2.2.1 i hi
  simp only [Array.size_empty, Nat.zero_add] at this
  rw [this, win_bytes4 data hb]; rfl

theorem len_eq (data : List Nat) : data.length = 4 * nC data + nT data := by
  unfold nC nT; omega

theorem tailLoaded_eq (data : List Nat) (d : Arith.Dec) (h : d.finalBytesRemaining ≤ nT data) :
    (tailLoaded data d : Int) = nT data - d.finalBytesRemaining :=
  Int.toNat_of_nonneg (Int.sub_nonneg.mpr h)

theorem tailLoaded_pred (data : List Nat) (d d1 : Arith.Dec) (h : d.finalBytesRemaining ≤ nT data)
    (e : d1.finalBytesRemaining = d.finalBytesRemaining - 1) : tailLoaded data d1 = tailLoaded data d + 1 := by
  have := tailLoaded_eq data d h
  have := tailLoaded_eq data d1 (by omega)
  omega

theorem loadedBytes_tail (data : List Nat) (d : Arith.Dec) (h : d.finalBytesRemaining ≤ nT data)
    (hci : d.state.chunkIndex = nC data) : (loadedBytes data d : Int) = data.length - d.finalBytesRemaining := by
  have := len_eq data
  have := tailLoaded_eq data d h
  unfold loadedBytes; omega

/-- `final_bytes` rotates: its head goes to the back -/
theorem getD_rotate (l : List Nat) (x k : Nat) (h : k + 1 < l.length) : (l.tail ++ [x]).getD k 0 = l.getD (k + 1) 0 := by
  rw [List.getD_eq_getElem?_getD, List.getD_eq_getElem?_getD, List.getElem?_tail.symm,
    List.getElem?_append_left (by rw [List.length_tail]; exact Nat.lt_sub_of_add_lt h)]

/-- extending `x` by `m + b` stream bits is extending it by `m` bits and the result `y` by `b` more -/
theorem load_core (data : List Nat) (t x y m b : Nat) (h : y = x * 2 ^ m + win data t m) :
    x * 2 ^ (m + b) + win data t (m + b) = y * 2 ^ b + win data (t + m) b := by
  rw [win_add, h, Nat.pow_add]; ring

/-- The register part of `Rel` with the sign of `bit_count` resolved: the register is `b` stream
    bits ahead of the ideal decoder's integer part, or still owes it `m` bits (`lb` bytes loaded). -/
inductive Reg (data : List Nat) (lb : Nat) (s : Arith.State) (I : Ideal) : Prop
  | ahead (b : Nat) (hb : s.bitCount = (b : Int)) (h31 : b ≤ 31) (hpos : I.tpos + b = 8 * lb)
      (hv : s.value = I.hi * 2 ^ b + win data I.tpos b)
  | behind (m : Nat) (hm : s.bitCount = -(m : Int)) (h0 : 0 < m) (h8 : m ≤ 8) (hpos : I.tpos = 8 * lb + m)
      (hv : I.hi = s.value * 2 ^ m + win data (8 * lb) m)

theorem Rel.reg {data : List Nat} {d : Arith.Dec} {I : Ideal} (h : Rel data d I) :
    Reg data (loadedBytes data d) d.state I := by
  have hbc := h.hbc
  have hpos := h.hpos
  by_cases h0 : 0 ≤ d.state.bitCount
  · obtain ⟨b, hb⟩ := Int.eq_ofNat_of_zero_le h0
    obtain ⟨h31, hp⟩ : b ≤ 31 ∧ I.tpos + b = 8 * loadedBytes data d := by omega
    exact .ahead b hb h31 hp (h.hv1 b hb)
  · obtain ⟨m, hm⟩ := Int.exists_eq_neg_ofNat (Int.le_of_lt (Int.not_le.mp h0))
    obtain ⟨hm0, hm8, hp⟩ : 0 < m ∧ m ≤ 8 ∧ I.tpos = 8 * loadedBytes data d + m := by omega
    exact .behind m hm hm0 hm8 hp (h.hv2 m hm hm0)

/-- the four register fields of `Rel` -/
theorem Reg.fields {data : List Nat} {lb : Nat} {s : Arith.State} {I : Ideal} (r : Reg data lb s I) :
    (-8 ≤ s.bitCount ∧ s.bitCount ≤ 31) ∧ (I.tpos : Int) + s.bitCount = 8 * (lb : Int) ∧
    (∀ b : Nat, s.bitCount = (b : Int) → s.value = I.hi * 2 ^ b + win data I.tpos b) ∧
    (∀ m : Nat, s.bitCount = -(m : Int) → 0 < m → I.hi = s.value * 2 ^ m + win data (8 * lb) m) := by
  cases r with
  | ahead b hb h31 hpos hv =>
    have h12 : (-8 ≤ s.bitCount ∧ s.bitCount ≤ 31) ∧ (I.tpos : Int) + s.bitCount = 8 * (lb : Int) := by omega
    refine ⟨h12.1, h12.2, fun b' hb' => ?_, fun m hm hm0 => by omega⟩
    obtain rfl : b' = b := Int.ofNat_inj.mp (hb'.symm.trans hb)
    exact hv
  | behind m hm h0 h8 hpos hv =>
    have h12 : (-8 ≤ s.bitCount ∧ s.bitCount ≤ 31) ∧ (I.tpos : Int) + s.bitCount = 8 * (lb : Int) := by omega
    refine ⟨h12.1, h12.2, fun b hb => by omega, fun m' hm' _ => ?_⟩
    obtain rfl : m' = m := Int.ofNat_inj.mp (Int.neg_inj.mp (hm'.symm.trans hm))
    exact hv

/-- shifting `n` more stream bits into the ideal integer part uses up `n` bits of the register's lead -/
theorem Reg.renorm {data : List Nat} {lb : Nat} {s : Arith.State} {I : Ideal} (r : Reg data lb s I)
    (h0 : 0 ≤ s.bitCount) (n : Nat) (hn : n ≤ 7) (range : Nat) :
    Reg data lb ⟨s.chunkIndex, s.value, range, s.bitCount - n⟩ (Ideal.norm data n I) := by
  cases r with
  | behind m hm hm0 _ _ _ => omega
  | ahead b hb h31 hpos hv =>
  rw [hb]
  rcases Nat.lt_or_ge b n with hbn | hnb
  · obtain ⟨c, rfl⟩ := Nat.exists_eq_add_of_lt hbn
    exact .behind (c + 1) (by simp only; omega) (Nat.succ_pos c) (by omega)
      (by rw [← hpos]; exact (Nat.add_assoc I.tpos b (c + 1)).symm) (hpos ▸ load_core data I.tpos I.hi s.value b (c + 1) hv)
  · obtain ⟨c, rfl⟩ := Nat.exists_eq_add_of_le hnb
    exact .ahead c (by simp only; omega) (Nat.le_trans (Nat.le_add_left c n) h31)
      ((Nat.add_assoc _ _ _).trans hpos) (hv.trans (load_core data I.tpos I.hi _ n c rfl))

/-- `K` more bits (8 or 32) shifted into the register of a decoder that owes bits -/
theorem Reg.load {data : List Nat} {lb : Nat} {s : Arith.State} {I : Ideal} (r : Reg data lb s I)
    (hneg : s.bitCount < 0) (K : Nat) (hK8 : 8 ≤ K) (hK32 : K ≤ 32) (s1 : Arith.State) (lb1 : Nat)
    (e_bc : s1.bitCount = s.bitCount + K) (e_lb : 8 * lb1 = 8 * lb + K)
    (e_val : s1.value = s.value * 2 ^ K + win data (8 * lb) K) : Reg data lb1 s1 I := by
  cases r with
  | ahead b hb _ _ _ => omega
  | behind m hm h0 h8 hpos hv =>
    obtain ⟨c, rfl⟩ := Nat.exists_eq_add_of_le (Nat.le_trans h8 hK8)
    refine .ahead c (by rw [e_bc, hm, Int.natCast_add, Int.neg_add_cancel_left]) (by omega) ?_ ?_
    · rw [hpos, e_lb, Nat.add_assoc]
    · rw [e_val, hpos]
      exact load_core data (8 * lb) s.value I.hi m c hv

theorem loadedBytes_le (data : List Nat) (d : Arith.Dec) (I : Ideal) (h : Rel data d I) :
    loadedBytes data d ≤ data.length + 1 := by
  have hl := len_eq data
  have h1 := h.hf1; have h3 := h.hidx; have h4 := h.hpre
  have := tailLoaded_eq data d h.hf2
  unfold loadedBytes
  by_cases hlt : d.state.chunkIndex < nC data
  · have := h4 hlt; omega
  · omega

theorem value_small (data : List Nat) (d : Arith.Dec) (I : Ideal) (h : Rel data d I) (hneg : d.state.bitCount < 0) :
    d.state.value < 256 := by
  obtain ⟨_, r2, r3⟩ := h.hi
  cases h.reg with
  | ahead b hb _ _ _ => omega
  | behind m _ _ _ _ hv =>
    have : d.state.value * 1 ≤ d.state.value * 2 ^ m := Nat.mul_le_mul_left _ (Nat.one_le_two_pow)
    omega

theorem Rel.not_eof {data : List Nat} {d : Arith.Dec} {I : Ideal} (h : Rel data d I) : Arith.isPastEof d = false := by
  have := h.hf1
  unfold Arith.isPastEof Arith.EOF
  simp only [beq_eq_false_iff_ne, ne_eq]; omega

theorem coldDecide_rel (data : List Nat) (d : Arith.Dec) (I : Ideal) (p : Nat) (hp : p < 256)
    (h : Rel data d I) (h0 : 0 ≤ d.state.bitCount) :
    (Arith.coldDecide d p).1 = (Ideal.readBool data I p).1 ∧
    Rel data (Arith.coldDecide d p).2 (Ideal.readBool data I p).2 ∧ needOf I.tpos ≤ data.length + 1 := by
  cases h.reg with
  | behind m hm hm0 _ _ _ => omega
  | ahead b hb h31 hpos hv =>
  have hwl := win_lt data I.tpos b
  obtain ⟨r1, r2, r3⟩ := h.hi
  obtain ⟨sa, sb⟩ := Arith.splitOf_bounds I.range p r1 r2 hp
  have hneed : needOf I.tpos ≤ data.length + 1 :=
    (needOf_le _ _).mpr (by have := loadedBytes_le data d I h; omega)
  -- the register compares like the integer part: `value / 2^b = hi`
  have hcmp : d.state.value ≥ Arith.splitOf I.range p * 2 ^ b ↔ I.hi ≥ Arith.splitOf I.range p := by
    rw [ge_iff_le, ← Nat.le_div_iff_mul_le (Nat.two_pow_pos b), hv, Nat.mul_comm,
      Nat.mul_add_div (Nat.two_pow_pos b), Nat.div_eq_of_lt hwl, Nat.add_zero]
  -- the relation after a decision that leaves `hi'` inside the new range `rt`
  have key : ∀ (hi' rt value' : Nat), 0 < rt → rt ≤ 255 → hi' < rt → value' = hi' * 2 ^ b + win data I.tpos b →
      Rel data { d with state := ⟨d.state.chunkIndex, value', rt <<< Arith.normShift rt,
                                    (b : Int) - (Arith.normShift rt : Int)⟩ }
        (Ideal.norm data (Arith.normShift rt) ⟨rt, hi', I.tpos⟩) := by
    intro hi' rt value' h1 h2 hlt hv'
    have r : Reg data (loadedBytes data d) ⟨d.state.chunkIndex, value', rt, b⟩ ⟨rt, hi', I.tpos⟩ := .ahead b rfl h31 hpos hv'
    obtain ⟨hbc, hpos, hv1, hv2⟩ := (r.renorm (Int.natCast_nonneg b) (Arith.normShift rt)
      (Arith.normShift_spec rt h1 h2).2.2 (rt <<< Arith.normShift rt)).fields
    exact { h with hr := Nat.shiftLeft_eq _ _, hbc, hpos, hv1, hv2, hi := norm_inv data rt hi' I.tpos h1 h2 hlt }
  unfold Arith.coldDecide Arith.decide Ideal.readBool
  rw [h.hr, hb, Int.toNat_natCast, Nat.shiftLeft_eq]
  by_cases hd : I.hi ≥ Arith.splitOf I.range p
  · rw [if_pos hd, if_pos (hcmp.mpr hd)]
    refine ⟨rfl, key _ _ _ (Nat.sub_pos_of_lt sb) (Nat.le_trans (Nat.sub_le _ _) r2) (Nat.sub_lt_sub_right hd r3) ?_, hneed⟩
    rw [hv, Nat.sub_mul]
    exact Nat.sub_add_comm (Nat.mul_le_mul_right (2 ^ b) hd)
  · rw [if_neg hd, if_neg (fun hh => hd (hcmp.mp hh))]
    exact ⟨rfl, key _ _ _ sa (Nat.le_trans (Nat.le_of_lt sb) r2) (Nat.lt_of_not_le hd) hv, hneed⟩

theorem shl_or (value K v : Nat) (hv : value < 256) (hK : K ≤ 32) (hvv : v < 2 ^ K) :
    Arith.u64 (value <<< K) ||| v = value * 2 ^ K + v := by
  have h1 : value <<< K < 2 ^ 64 := by
    rw [Nat.shiftLeft_eq]
    calc value * 2 ^ K < 256 * 2 ^ K := Nat.mul_lt_mul_of_pos_right hv (Nat.two_pow_pos K)
      _ ≤ 256 * 2 ^ 32 := Nat.mul_le_mul_left _ (Nat.pow_le_pow_right (by decide) hK)
      _ ≤ 2 ^ 64 := by decide
  unfold Arith.u64
  rw [Nat.mod_eq_of_lt h1, ← Nat.shiftLeft_add_eq_or_of_lt hvv, Nat.shiftLeft_eq]

/-- The loading step against the ideal decoder (which has all bits at hand): either the register
    is refilled, or the trailing bytes and the pad byte are used up and the pending decision looks
    further than one byte past the end. -/
theorem load_rel (data : List Nat) (hb : ∀ b ∈ data, b < 256) (d : Arith.Dec) (I : Ideal) (h : Rel data d I) :
    Rel data (Arith.load d) I ∨ (Arith.isPastEof (Arith.load d) = true ∧ needOf I.tpos > data.length + 1) := by
  unfold Arith.load
  by_cases hneg : d.state.bitCount < 0
  swap
  · rw [if_neg hneg]; exact Or.inl h
  rw [if_pos hneg]
  have hvs := value_small data d I h hneg
  have hf2 := h.hf2
  cases hch : d.chunks[d.state.chunkIndex]? with
  | some v =>
    have hlt : d.state.chunkIndex < nC data := by
      rw [← chunks_size data, ← h.hc]; exact (Array.getElem?_eq_some_iff.mp hch).1
    obtain rfl : v = win data (32 * d.state.chunkIndex) 32 := by
      have := chunk_eq data hb _ hlt
      rw [← h.hc, hch] at this; exact Option.some.inj this
    have hfr := h.hpre hlt
    have hLB : loadedBytes data d = 4 * d.state.chunkIndex := by
      unfold loadedBytes tailLoaded; rw [hfr, Int.sub_self]; rfl
    obtain ⟨hbc, hpos, hv1, hv2⟩ := (h.reg.load hneg 32 (by decide) (by decide)
      ⟨d.state.chunkIndex + 1, Arith.u64 (d.state.value <<< 32) ||| win data (32 * d.state.chunkIndex) 32, d.state.range,
        d.state.bitCount + 32⟩
      (4 * (d.state.chunkIndex + 1) + tailLoaded data d) rfl (by rw [Nat.mul_succ, Nat.add_right_comm, Nat.mul_add]; rfl)
      (by rw [shl_or _ 32 _ hvs (by decide) (win_lt _ _ _), hLB, ← Nat.mul_assoc])).fields
    exact Or.inl { h with hidx := hlt, hpre := fun _ => hfr, hbc, hpos, hv1, hv2 }
  | none =>
    have hci : d.state.chunkIndex = nC data :=
      Nat.le_antisymm h.hidx (by rw [← chunks_size data, ← h.hc]; exact Array.getElem?_eq_none_iff.mp hch)
    have hLB : loadedBytes data d = 4 * nC data + tailLoaded data d := by rw [loadedBytes, hci]
    have htot := loadedBytes_tail data d hf2 hci
    -- a byte `x` of the tail, or the pad byte, shifted in; `fb` is what becomes of `final_bytes`
    have key : ∀ (x : Nat) (fb : List Nat), 0 ≤ d.finalBytesRemaining → x = byteAt data (loadedBytes data d) →
        fb.length = 3 → (∀ k : Nat, (k : Int) < d.finalBytesRemaining - 1 → fb.getD k 0 = d.finalBytes.getD (k + 1) 0) →
        Rel data { d with finalBytesRemaining := d.finalBytesRemaining - 1, finalBytes := fb,
                          state := { d.state with value := Arith.u64 (d.state.value <<< 8) ||| x,
                                                  bitCount := d.state.bitCount + 8 } } I := by
      intro x fb h0 hx hlen hfb
      have etl := fun d1 => tailLoaded_pred data d d1 hf2
      obtain ⟨hbc, hpos, hv1, hv2⟩ := (h.reg.load hneg 8 (by decide) (by decide)
        ⟨d.state.chunkIndex, Arith.u64 (d.state.value <<< 8) ||| x, d.state.range, d.state.bitCount + 8⟩
        (4 * d.state.chunkIndex + tailLoaded data { d with finalBytesRemaining := d.finalBytesRemaining - 1 }) rfl
        (by rw [etl _ rfl, ← Nat.add_assoc, Nat.mul_add]; rfl)
        (by rw [shl_or _ 8 x hvs (by decide) (hx ▸ byteAt_lt data hb _), hx, ← win_byte data hb])).fields
      refine { h with hf1 := Int.sub_le_sub_right h0 1, hf2 := Int.le_trans (Int.sub_le_self _ (by decide)) hf2,
                      hpre := fun hlt => (Nat.ne_of_lt hlt hci).elim, hlen, hfb := fun k hk => ?_, hbc, hpos, hv1, hv2 }
      simp only at hk
      rw [etl _ rfl, hfb k hk, h.hfb (k + 1) (Int.add_lt_of_lt_sub_right hk), ← Nat.add_assoc (4 * nC data), Nat.add_assoc _ 1 k, Nat.add_comm 1 k]
    show Rel data (Arith.loadFromFinalBytes d) I ∨
      (Arith.isPastEof (Arith.loadFromFinalBytes d) = true ∧ needOf I.tpos > data.length + 1)
    unfold Arith.loadFromFinalBytes
    by_cases hf1 : d.finalBytesRemaining ≥ 1
    · rw [if_pos hf1]
      have hnt : nT data ≤ 3 := Nat.le_of_lt_succ (Nat.mod_lt _ (by decide))
      refine Or.inl (key _ _ (Int.le_of_lt hf1) ?_ (by rw [List.length_append, List.length_tail, h.hlen]; rfl)
        fun k hk => getD_rotate _ _ k (by rw [h.hlen]; omega))
      have := h.hfb 0 hf1
      rw [List.headD_eq_getD, this, hLB]; rfl
    · rw [if_neg hf1]
      by_cases hf0 : d.finalBytesRemaining = 0
      · rw [if_pos hf0]
        have := key 0 d.finalBytes (Int.le_of_eq hf0.symm) ?_ h.hlen (fun k hk => by omega)
        · rw [hf0, Nat.or_zero] at this; exact Or.inl this
        · unfold byteAt
          rw [List.getD_eq_getElem?_getD, List.getElem?_eq_none (by omega)]
          rfl
      · rw [if_neg hf0]
        refine Or.inr ⟨rfl, ?_⟩
        have := h.hf1
        have := h.hpos
        exact Nat.lt_of_not_le (mt (needOf_le _ _).mp (by omega))

theorem coldReadBit_rel (data : List Nat) (hb : ∀ b ∈ data, b < 256) (d : Arith.Dec) (I : Ideal) (p : Nat)
    (hp : p < 256) (hwf : Arith.WF d) (h : Rel data d I) :
    (Arith.isPastEof (Arith.coldReadBit d p).2 = false ∧ (Arith.coldReadBit d p).1 = (Ideal.readBool data I p).1 ∧
      Rel data (Arith.coldReadBit d p).2 (Ideal.readBool data I p).2 ∧ needOf I.tpos ≤ data.length + 1) ∨
    (Arith.isPastEof (Arith.coldReadBit d p).2 = true ∧ (Arith.coldReadBit d p).1 = false ∧
      needOf I.tpos > data.length + 1) := by
  rw [Arith.coldReadBit_eq d p hwf]
  rcases load_rel data hb d I h with h1 | ⟨he, hn⟩
  · obtain ⟨e1, e2, e3⟩ := coldDecide_rel data (Arith.load d) I p hp h1 ((Arith.load_wf d hwf).2 h1.not_eof)
    rw [if_neg (by rw [h1.not_eof]; decide)]
    exact Or.inl ⟨e2.not_eof, e1, e2, e3⟩
  · rw [if_pos he]
    exact Or.inr ⟨he, rfl, hn⟩

/-- the simulation: while the crate's decoder has not run out, both are views of one ideal
    decoder; once it has, the RFC decoder's decisions have needed more than one byte past the end -/
def Sim (data : List Nat) (d : Arith.Dec) (s : BoolDec.St) : Prop :=
  s.data = data ∧ Arith.WF d ∧
  ((Arith.isPastEof d = false ∧ Rel data d (absS s) ∧ SInv s ∧ s.need ≤ data.length + 1) ∨
   (Arith.isPastEof d = true ∧ s.need > data.length + 1))

theorem sim_exhausted (data : List Nat) (d : Arith.Dec) (s : BoolDec.St) (h : Sim data d s) :
    Arith.isPastEof d = BoolDec.exhausted s := by
  unfold BoolDec.exhausted
  rw [h.1]
  rcases h.2.2 with ⟨e, _, _, hn⟩ | ⟨e, hn⟩
  · rw [e]; exact (decide_eq_false (Nat.not_lt.mpr hn)).symm
  · rw [e]; exact (decide_eq_true hn).symm

/-- once the crate's decoder has run out, whatever the RFC decoder goes on to read stays related -/
theorem Sim.dead {data : List Nat} {d : Arith.Dec} {s : BoolDec.St} (h : Sim data d s) (he : Arith.isPastEof d = true)
    (s' : BoolDec.St) (hn : s.need ≤ s'.need) (hd : s'.data = s.data) : Sim data d s' := by
  obtain ⟨sd, swf, ⟨c, _⟩ | ⟨_, c⟩⟩ := h
  · rw [he] at c; cases c
  · exact ⟨hd.trans sd, swf, Or.inr ⟨he, Nat.lt_of_lt_of_le c hn⟩⟩

theorem sim_bit (data : List Nat) (hb : ∀ b ∈ data, b < 256) (d : Arith.Dec) (s : BoolDec.St) (p : Nat) (hp : p < 256)
    (h : Sim data d s) :
    Sim data (Arith.coldReadBit d p).2 (BoolDec.readBool s p).2 ∧
    (Arith.isPastEof (Arith.coldReadBit d p).2 = false →
      Arith.isPastEof d = false ∧ (Arith.coldReadBit d p).1 = (BoolDec.readBool s p).1) ∧
    (Arith.isPastEof (Arith.coldReadBit d p).2 = true → (Arith.coldReadBit d p).1 = false) := by
  obtain ⟨m1, m2⟩ := spec_bool_mono s p
  have hd := h.1
  have hwf := h.2.1
  have hwf' := Arith.coldReadBit_wf d p hp hwf
  rcases h.2.2 with ⟨hlive, hrel, hsinv, hneed⟩ | ⟨heof, _⟩
  · have hbs : ∀ b ∈ s.data, b < 256 := by rw [hd]; exact hb
    obtain ⟨s1, s2, s3⟩ := spec_readBool s p hp hbs hsinv hrel.hi
    have s5 := (readBool_need_data s p).1
    rw [neededAtDecision_eq s hsinv] at s5
    rw [hd] at s1 s2
    rcases coldReadBit_rel data hb d (absS s) p hp hwf hrel with ⟨c1, c2, c3, c4⟩ | ⟨c1, c2, c3⟩
    · refine ⟨⟨by rw [m2, hd], hwf', Or.inl ⟨c1, by rw [s2]; exact c3, s3, ?_⟩⟩, ?_, ?_⟩
      · rw [s5]; exact Nat.max_le.mpr ⟨hneed, c4⟩
      · intro _; exact ⟨hlive, by rw [c2, s1]⟩
      · intro he; rw [c1] at he; exact absurd he (by decide)
    · refine ⟨⟨by rw [m2, hd], hwf', Or.inr ⟨c1, ?_⟩⟩, ?_, ?_⟩
      · rw [s5]; exact Nat.lt_of_lt_of_le c3 (Nat.le_max_right _ _)
      · intro he; rw [c1] at he; exact absurd he (by decide)
      · intro _; exact c2
  · have hst := Arith.eof_sticky d p hwf ((Arith.isPastEof_iff d).mp heof)
    rw [hst]
    exact ⟨h.dead heof _ m1 m2, fun he => (by rw [heof] at he; cases he), fun _ => rfl⟩

theorem u8_step (v k : Nat) (b : Bool) (hv : v < 2 ^ k) (hk : k + 1 ≤ 8) :
    Arith.u8 (v <<< 1) + b.toNat = v * 2 + b.toNat ∧ v * 2 + b.toNat < 2 ^ (k + 1) := by
  have hb := Bool.toNat_le b
  have h256 : 2 ^ (k + 1) ≤ 256 := Nat.pow_le_pow_right (by decide) hk
  have : v * 2 + 1 < 2 ^ (k + 1) := by rw [Nat.pow_succ]; omega
  unfold Arith.u8
  rw [Nat.shiftLeft_eq, Nat.pow_one, Nat.mod_eq_of_lt (by omega)]
  exact ⟨rfl, by omega⟩

theorem sim_literal (data : List Nat) (hb : ∀ b ∈ data, b < 256) (n : Nat) :
    ∀ (d : Arith.Dec) (s : BoolDec.St) (v v' k : Nat), Sim data d s → v < 2 ^ k → n + k ≤ 8 →
      (Arith.isPastEof d = false → v = v') →
      Sim data (Arith.coldReadLiteral n d v).2 (BoolDec.readLiteral n s v').2 ∧
      (Arith.isPastEof (Arith.coldReadLiteral n d v).2 = false →
        Arith.isPastEof d = false ∧ (Arith.coldReadLiteral n d v).1 = (BoolDec.readLiteral n s v').1) := by
  induction n with
  | zero =>
    intro d s v v' k h _ _ hv
    exact ⟨h, fun he => ⟨he, hv he⟩⟩
  | succ n ih =>
    intro d s v v' k h hvk hnk hv
    unfold Arith.coldReadLiteral BoolDec.readLiteral BoolDec.readFlag
    obtain ⟨b1, b2, _⟩ := sim_bit data hb d s 128 (by decide) h
    obtain ⟨u1, u2⟩ := u8_step v k (Arith.coldReadBit d 128).1 hvk (by omega)
    have := ih (Arith.coldReadBit d 128).2 (BoolDec.readBool s 128).2
      (Arith.u8 (v <<< 1) + (Arith.coldReadBit d 128).1.toNat) (v' * 2 + (BoolDec.readBool s 128).1.toNat) (k + 1)
      b1 (by rw [u1]; exact u2) (by omega)
      (by intro he
          obtain ⟨l1, l2⟩ := b2 he
          rw [u1, hv l1, l2])
    refine ⟨this.1, fun he => ?_⟩
    obtain ⟨l1, l2⟩ := this.2 he
    exact ⟨(b2 l1).1, l2⟩

theorem literal_eof_mono (n : Nat) : ∀ (d : Arith.Dec) (v : Nat), Arith.WF d → Arith.isPastEof d = true →
    Arith.isPastEof (Arith.coldReadLiteral n d v).2 = true := by
  induction n with
  | zero => intro d v _ h; exact h
  | succ n ih =>
    intro d v hwf h
    unfold Arith.coldReadLiteral
    have hst := Arith.eof_sticky d 128 hwf ((Arith.isPastEof_iff d).mp h)
    rw [hst]
    exact ih d _ hwf h

theorem sim_signed (data : List Nat) (hb : ∀ b ∈ data, b < 256) (n : Nat) (hn : n ≤ 8)
    (d : Arith.Dec) (s : BoolDec.St) (h : Sim data d s) :
    Sim data (Arith.coldReadSigned d n).2 (BoolDec.readSigned s n).2 ∧
    (Arith.isPastEof (Arith.coldReadSigned d n).2 = false → (Arith.coldReadSigned d n).1 = (BoolDec.readSigned s n).1) := by
  obtain ⟨b1, b2, b3⟩ := sim_bit data hb d s 128 (by decide) h
  unfold Arith.coldReadSigned BoolDec.readSigned BoolDec.readFlag
  simp only
  cases hE : Arith.isPastEof (Arith.coldReadBit d 128).2 with
  | true =>
    -- ran out on the flag: the crate answers 0 and stops; the RFC decoder's need only grows
    rw [b3 hE]
    simp only [Bool.not_false, if_true]
    refine ⟨?_, fun he => by rw [hE] at he; cases he⟩
    by_cases hsf : (!(BoolDec.readBool s 128).1) = true
    · rw [if_pos hsf]; exact b1
    · rw [if_neg hsf]
      obtain ⟨l1, l2⟩ := spec_literal_mono n (BoolDec.readBool s 128).2 0
      obtain ⟨m1, m2⟩ := spec_bool_mono (BoolDec.readLiteral n (BoolDec.readBool s 128).2 0).2 128
      exact b1.dead hE _ (Nat.le_trans l1 m1) (m2.trans l2)
  | false =>
    obtain ⟨_, hbit⟩ := b2 hE
    rw [← hbit]
    by_cases hf : (!(Arith.coldReadBit d 128).1) = true
    · rw [if_pos hf, if_pos hf]
      exact ⟨b1, fun _ => rfl⟩
    · rw [if_neg hf, if_neg hf]
      obtain ⟨l1, l2⟩ := sim_literal data hb n (Arith.coldReadBit d 128).2 (BoolDec.readBool s 128).2 0 0 0 b1
        (by decide) hn (fun _ => rfl)
      obtain ⟨g1, g2, _⟩ := sim_bit data hb _ _ 128 (by decide) l1
      refine ⟨g1, fun he => ?_⟩
      obtain ⟨e1, e2⟩ := g2 he
      obtain ⟨_, e4⟩ := l2 e1
      rw [e2, e4]; rfl

theorem sim_init (data : List Nat) (hb : ∀ b ∈ data, b < 256) (h255 : data.head? ≠ some 255) :
    Sim data (Arith.init data) (BoolDec.init data) := by
  have hne : byteAt data 0 ≠ 255 := by
    intro he
    cases data with
    | nil => exact absurd he (by decide)
    | cons a t => exact h255 (congrArg some he)
  have hb0 := byteAt_lt data hb 0
  -- the RFC register: the first byte is the integer part, the second lies below it
  obtain ⟨e1, e2⟩ : (byteAt data 0 * 256 + byteAt data 1) / 256 = byteAt data 0 ∧
      (byteAt data 0 * 256 + byteAt data 1) % 256 = byteAt data 1 := by
    have := byteAt_lt data hb 1; omega
  have habs : absS (BoolDec.init data) = ⟨255, byteAt data 0, 8⟩ := congrArg (Ideal.mk 255 · 8) e1
  obtain ⟨_, htl, _, _, htail⟩ := Arith.splitChunks_spec data #[]
  have hinit_f : (Arith.init data).finalBytesRemaining = (nT data : Int) := congrArg Nat.cast htl
  have htl0 : tailLoaded data (Arith.init data) = 0 := by unfold tailLoaded; rw [hinit_f, Int.sub_self]; rfl
  have hlb : loadedBytes data (Arith.init data) = 0 := by unfold loadedBytes; rw [htl0]; rfl
  have hnt : nT data ≤ 3 := Nat.le_of_lt_succ (Nat.mod_lt _ (by decide))
  -- the register is empty and owes the whole first byte
  have r : Reg data (loadedBytes data (Arith.init data)) (Arith.init data).state ⟨255, byteAt data 0, 8⟩ := by
    rw [hlb]
    refine .behind 8 rfl (by decide) (by decide) rfl ?_
    show byteAt data 0 = 0 * 2 ^ 8 + win data (8 * 0) 8
    rw [win_byte data hb 0, Nat.zero_mul, Nat.zero_add]
  obtain ⟨hbc, hpos, hv1, hv2⟩ := r.fields
  have hrel : Rel data (Arith.init data) (absS (BoolDec.init data)) := by
    rw [habs]
    refine { hc := rfl, hidx := Nat.zero_le _, hf1 := by rw [hinit_f]; omega, hf2 := Int.le_of_eq hinit_f,
             hpre := fun _ => hinit_f, hlen := ?_, hfb := ?_, hr := rfl, hbc, hpos, hv1, hv2,
             hi := ⟨by show 128 ≤ 255; decide, Nat.le_refl 255, Nat.lt_of_le_of_ne (Nat.le_of_lt_succ hb0) hne⟩ }
    · show (((Arith.splitChunks data #[]).2 ++ [0, 0, 0]).take 3).length = 3
      rw [List.length_take, List.length_append, htl]
      exact Nat.min_eq_left (Nat.le_add_left 3 _)
    · intro k hk
      rw [hinit_f] at hk
      have hk' : k < nT data := Int.ofNat_lt.mp hk
      rw [htl0]
      show (((Arith.splitChunks data #[]).2 ++ [0, 0, 0]).take 3).getD k 0 = _
      rw [List.getD_eq_getElem?_getD, List.getElem?_take_of_lt (Nat.lt_of_lt_of_le hk' hnt),
        List.getElem?_append_left (by rw [htl]; exact hk'), ← List.getD_eq_getElem?_getD, htail k]
      unfold byteAt nC; rw [Nat.add_zero]
  refine ⟨rfl, Arith.init_wf data, Or.inl ⟨hrel.not_eof, hrel, ⟨Nat.le_refl 2, Nat.zero_lt_succ 7, ?_⟩, Nat.zero_le _⟩⟩
  show _ = win data (8 * 1) 8 * 1
  rw [Nat.mul_one, win_byte data hb 1]
  exact e2

def entryGood (len i : Nat) (e : Int) : Bool :=
  if e > 0 then e.toNat % 2 == 0 && decide (e.toNat < len) && decide (i < e.toNat) else decide ((-e).toNat < 128)

/-- shape of an RFC tree: pairs of entries, positive entries are even indices further down the
    array (the trees are written top-down), other entries are negated leaves below 128; one byte
    probability per pair -/
def treeGood (t : List Int) (ps : List Nat) : Bool :=
  t.length % 2 == 0 && decide (t.length / 2 ≤ ps.length) && decide (t.length / 2 ≤ 128) && decide (0 < t.length) &&
  (List.range t.length).all (fun i => entryGood t.length i (t.getD i 0)) && ps.all (· < 256)

def nodesOf (t : List Int) (ps : List Nat) : Array Arith.Node := (Arith.treeNodesFrom t ps).toArray

theorem treeNodes_spec : ∀ (t : List Int) (ps : List Nat),
    (Arith.treeNodesFrom t ps).length ≤ t.length / 2 ∧
    ∀ k : Nat, 2 * k + 1 < t.length → k < ps.length → (Arith.treeNodesFrom t ps)[k]? =
      some ⟨Arith.prepareBranch (t.getD (2 * k) 0), Arith.prepareBranch (t.getD (2 * k + 1) 0), ps.getD k 0⟩ := by
  intro t ps
  fun_induction Arith.treeNodesFrom t ps with
  | case1 l r ts p ps ih =>
    refine ⟨?_, fun k hk hp => ?_⟩
    · show _ + 1 ≤ (ts.length + 2) / 2
      rw [Nat.add_div_right _ (by decide)]; exact Nat.succ_le_succ ih.1
    · cases k with
      | zero => rfl
      | succ k =>
        rw [List.getElem?_cons_succ, ih.2 k (Nat.lt_of_succ_lt_succ (Nat.lt_of_succ_lt_succ hk)) (Nat.lt_of_succ_lt_succ hp),
          Nat.mul_succ]
        rfl
  | case2 t ps hno =>
    refine ⟨Nat.zero_le _, fun k hk hp => ?_⟩
    match t, ps, hno, hk, hp with
    | l :: r :: ts, p :: ps, hno, _, _ => exact (hno l r ts p ps rfl rfl).elim
    | [], _, _, hk, _ => exact absurd hk (Nat.not_lt_zero _)
    | [_], _, _, hk, _ => exact absurd (Nat.le_of_succ_le_succ hk) (Nat.not_succ_le_zero _)
    | _ :: _ :: _, [], _, _, hp => exact absurd hp (Nat.not_lt_zero _)

/-- everything the walks need to know about a good tree -/
structure TreeFacts (t : List Int) (ps : List Nat) : Prop where
  size : (nodesOf t ps).size = t.length / 2
  pos : 0 < t.length / 2
  len : t.length = 2 * (t.length / 2)
  small : t.length / 2 ≤ 128
  node : ∀ k, k < t.length / 2 → (nodesOf t ps)[k]? =
      some ⟨Arith.prepareBranch (t.getD (2 * k) 0), Arith.prepareBranch (t.getD (2 * k + 1) 0), ps.getD k 0⟩
  prob : ∀ k, ps.getD k 0 < 256
  entry : ∀ i, i < t.length → entryGood t.length i (t.getD i 0) = true

theorem treeFacts (t : List Int) (ps : List Nat) (h : treeGood t ps = true) : TreeFacts t ps := by
  unfold treeGood at h
  simp only [Bool.and_eq_true, beq_iff_eq, decide_eq_true_eq, List.all_eq_true, List.mem_range] at h
  obtain ⟨⟨⟨⟨⟨h1, h2⟩, h3⟩, h4⟩, h5⟩, h6⟩ := h
  have hnode := fun k (hk : k < t.length / 2) => (treeNodes_spec t ps).2 k (by omega) (Nat.lt_of_lt_of_le hk h2)
  -- the last node exists, so there are no fewer nodes than pairs of entries
  have hlast : t.length / 2 - 1 < (nodesOf t ps).size := (List.getElem?_eq_some_iff.mp (hnode _ (by omega))).1
  exact ⟨Nat.le_antisymm (treeNodes_spec t ps).1 (Nat.le_of_pred_lt hlast), by omega, by omega, h3,
    fun k hk => List.getElem?_toArray.trans (hnode k hk), getD_lt ps h6, h5⟩

/-- what the branch entry `2k + bit` of node `k` means for both walks: a later node, or a leaf -/
theorem branch_cases (t : List Int) (ps : List Nat) (f : TreeFacts t ps) (k : Nat) (hk : k < t.length / 2) (b : Bool)
    (e : Int) (hget : e = t.getD (2 * k + b.toNat) 0) :
    (e > 0 ∧ Arith.prepareBranch e = e.toNat / 2 ∧ e.toNat / 2 < t.length / 2 ∧ k < e.toNat / 2 ∧
      e.toNat = 2 * (e.toNat / 2)) ∨
    (¬ e > 0 ∧ t.length / 2 ≤ Arith.prepareBranch e ∧ Arith.valueFromBranch (Arith.prepareBranch e) = (-e).toNat) := by
  have hlen := f.len
  have hb := Bool.toNat_le b
  have he := f.entry (2 * k + b.toNat) (by omega)
  rw [← hget] at he
  unfold entryGood at he
  by_cases hpos : e > 0
  · left
    simp only [hpos, if_true, Bool.and_eq_true, beq_iff_eq, decide_eq_true_eq] at he
    obtain ⟨⟨e1, e2⟩, e3⟩ := he
    refine ⟨hpos, if_pos hpos, ?_⟩
    omega
  · right
    simp only [hpos, if_false, decide_eq_true_eq] at he
    have hor : 128 ||| (-e).toNat = 128 + (-e).toNat := (Nat.two_pow_add_eq_or_of_lt (i := 7) he 1).symm
    refine ⟨hpos, ?_, ?_⟩
    · unfold Arith.prepareBranch; rw [if_neg hpos, hor]; exact Nat.le_trans f.small (Nat.le_add_right _ _)
    · unfold Arith.prepareBranch Arith.valueFromBranch; rw [if_neg hpos, hor, Nat.add_mod_left, Nat.mod_eq_of_lt he]

theorem cold_step_good (t : List Int) (ps : List Nat) (f : TreeFacts t ps) (fc k : Nat) (d : Arith.Dec)
    (hk : k < t.length / 2) :
    Arith.coldReadTree (nodesOf t ps) (fc + 1) d k =
      Arith.coldNext (nodesOf t ps) fc (Arith.coldReadBit d (ps.getD k 0)).2
        (Arith.prepareBranch (t.getD (2 * k + (Arith.coldReadBit d (ps.getD k 0)).1.toNat) 0)) := by
  rw [Arith.cold_step _ fc d k _ _ _ (f.node k hk)]
  cases (Arith.coldReadBit d (ps.getD k 0)).1 <;> rfl

/-- where a branch entry of the RFC walk leads -/
def specNext (t : List Int) (ps : List Nat) (fuel : Nat) (s : BoolDec.St) (e : Int) : Option (Nat × BoolDec.St) :=
  if e > 0 then BoolDec.readTree t ps fuel s e.toNat else some ((-e).toNat, s)

theorem getElem?_getD (t : List Int) (i : Nat) (hi : i < t.length) : t[i]? = some (t.getD i 0) := by
  rw [List.getD_eq_getElem?_getD, List.getElem?_eq_getElem hi]; rfl

theorem spec_step (t : List Int) (ps : List Nat) (f : TreeFacts t ps) (fs k : Nat) (s : BoolDec.St)
    (hk : k < t.length / 2) :
    BoolDec.readTree t ps (fs + 1) s (2 * k) =
      specNext t ps fs (BoolDec.readBool s (ps.getD k 0)).2
        (t.getD (2 * k + (BoolDec.readBool s (ps.getD k 0)).1.toNat) 0) := by
  have hlen := f.len
  have hb := Bool.toNat_le (BoolDec.readBool s (ps.getD k 0)).1
  unfold BoolDec.readTree specNext
  simp only [Nat.mul_div_cancel_left k (by decide : 0 < 2)]
  rw [getElem?_getD t _ (by omega)]

/-- the cold walk of a decoder that has run out: always left, ends at a leaf, decoder untouched -/
theorem cold_next_eof (t : List Int) (ps : List Nat) (f : TreeFacts t ps) (fc : Nat) :
    ∀ (k : Nat) (b : Bool) (d : Arith.Dec), k < t.length / 2 → t.length / 2 ≤ fc + k + 1 → Arith.WF d →
      Arith.isPastEof d = true →
      ∃ v, Arith.coldNext (nodesOf t ps) fc d (Arith.prepareBranch (t.getD (2 * k + b.toNat) 0)) = some (v, d) := by
  induction fc with
  | zero =>
    intro k b d hk hf _ _
    unfold Arith.coldNext
    rcases branch_cases t ps f k hk b _ rfl with ⟨_, _, e3, e4, _⟩ | ⟨_, e2, _⟩
    · omega
    · rw [f.size, if_neg (Nat.not_lt.mpr e2)]; exact ⟨_, rfl⟩
  | succ fc ih =>
    intro k b d hk hf hwf he
    unfold Arith.coldNext
    rcases branch_cases t ps f k hk b _ rfl with ⟨_, e2, e3, e4, _⟩ | ⟨_, e2, _⟩
    · rw [f.size, e2, if_pos e3, cold_step_good t ps f fc _ d e3,
        Arith.eof_sticky d _ hwf ((Arith.isPastEof_iff d).mp he)]
      exact ih _ false d e3 (by omega) hwf he
    · rw [f.size, if_neg (Nat.not_lt.mpr e2)]; exact ⟨_, rfl⟩

/-- the RFC walk always ends at a leaf; its ghost `need` only grows -/
theorem spec_next_total (t : List Int) (ps : List Nat) (f : TreeFacts t ps) (fs : Nat) :
    ∀ (k : Nat) (b : Bool) (s : BoolDec.St), k < t.length / 2 → t.length / 2 ≤ fs + k + 1 →
      ∃ v s', specNext t ps fs s (t.getD (2 * k + b.toNat) 0) = some (v, s') ∧ s.need ≤ s'.need ∧ s'.data = s.data := by
  induction fs with
  | zero =>
    intro k b s hk hf
    unfold specNext
    rcases branch_cases t ps f k hk b _ rfl with ⟨_, _, e3, e4, _⟩ | ⟨e1, _, _⟩
    · omega
    · rw [if_neg e1]; exact ⟨_, _, rfl, Nat.le_refl _, rfl⟩
  | succ fs ih =>
    intro k b s hk hf
    unfold specNext
    rcases branch_cases t ps f k hk b _ rfl with ⟨e1, _, e3, e4, e5⟩ | ⟨e1, _, _⟩
    · rw [if_pos e1, e5]
      generalize (t.getD (2 * k + b.toNat) 0).toNat / 2 = c at e3 e4 ⊢
      rw [spec_step t ps f fs c s e3]
      obtain ⟨m1, m2⟩ := spec_bool_mono s (ps.getD c 0)
      obtain ⟨v, s', r1, r2, r3⟩ := ih c (BoolDec.readBool s (ps.getD c 0)).1 (BoolDec.readBool s (ps.getD c 0)).2 e3
        (by omega)
      exact ⟨v, s', r1, Nat.le_trans m1 r2, r3.trans m2⟩
    · rw [if_neg e1]; exact ⟨_, _, rfl, Nat.le_refl _, rfl⟩

theorem fast_tree_total (t : List Int) (ps : List Nat) (f : TreeFacts t ps) (chunks : Array Nat) (fuel : Nat) :
    ∀ (k : Nat) (st : Arith.State) (node : Arith.Node), t.length / 2 ≤ fuel + k → k < t.length / 2 →
      (nodesOf t ps)[k]? = some node → ∃ r, Arith.fastReadTree chunks (nodesOf t ps) fuel st node = some r := by
  induction fuel with
  | zero => intro k st node h1 h3; omega
  | succ fuel ih =>
    intro k st node h1 h3 hn
    rw [f.node k h3] at hn
    obtain rfl := Option.some.inj hn
    unfold Arith.fastReadTree
    simp only
    have hbr : (if (Arith.fastReadBit chunks st (ps.getD k 0)).1 = true then Arith.prepareBranch (t.getD (2 * k + 1) 0)
        else Arith.prepareBranch (t.getD (2 * k) 0)) =
        Arith.prepareBranch (t.getD (2 * k + (Arith.fastReadBit chunks st (ps.getD k 0)).1.toNat) 0) := by
      cases (Arith.fastReadBit chunks st (ps.getD k 0)).1 <;> rfl
    rw [hbr]
    rcases branch_cases t ps f k h3 (Arith.fastReadBit chunks st (ps.getD k 0)).1 _ rfl
      with ⟨_, e2, e3, e4, _⟩ | ⟨_, e2, _⟩
    · rw [e2, f.node _ e3]
      exact ih _ _ _ (by omega) e3 (f.node _ e3)
    · rw [Array.getElem?_eq_none (by rw [f.size]; exact e2)]
      exact ⟨_, rfl⟩

theorem TreeFacts.probs {t : List Int} {ps : List Nat} (f : TreeFacts t ps) (k : Nat) (nd : Arith.Node)
    (hk : (nodesOf t ps)[k]? = some nd) : nd.prob < 256 := by
  have hlt : k < t.length / 2 := f.size ▸ (Array.getElem?_eq_some_iff.mp hk).1
  rw [f.node k hlt] at hk
  exact Option.some.inj hk ▸ f.prob k

/-- on a good tree every public tree read, from any node, is the cold walk -/
theorem readTreeFrom_good (t : List Int) (ps : List Nat) (f : TreeFacts t ps) (d : Arith.Dec) (hwf : Arith.WF d)
    (k : Nat) (hk : k < t.length / 2) :
    Vp8Coef.readTreeFrom d (nodesOf t ps) k = Arith.coldReadTree (nodesOf t ps) ((nodesOf t ps).size + 1) d k := by
  obtain ⟨r, hfast⟩ := fast_tree_total t ps f d.chunks ((nodesOf t ps).size + 1) k d.state _
    (by rw [f.size]; omega) hk (f.node k hk)
  exact Arith.readTreeFrom_cold d _ f.probs hwf.1 k _ (f.node k hk) r hfast

theorem tree_sim (t : List Int) (ps : List Nat) (f : TreeFacts t ps) (data : List Nat) (hb : ∀ b ∈ data, b < 256)
    (fc : Nat) :
    ∀ (fs k : Nat) (d : Arith.Dec) (s : BoolDec.St), t.length / 2 ≤ fc + k → t.length / 2 ≤ fs + k →
      k < t.length / 2 → Sim data d s →
      ∃ v d' v' s', Arith.coldReadTree (nodesOf t ps) fc d k = some (v, d') ∧
        BoolDec.readTree t ps fs s (2 * k) = some (v', s') ∧ Sim data d' s' ∧
        (Arith.isPastEof d' = false → v = v') := by
  induction fc with
  | zero => intro fs k d s h1 _ h3; omega
  | succ fc ih =>
    intro fs k d s h1 h2 h3 hsim
    obtain ⟨fs, rfl⟩ : ∃ fs', fs = fs' + 1 := ⟨fs - 1, by omega⟩
    obtain ⟨b1, b2, b3⟩ := sim_bit data hb d s (ps.getD k 0) (f.prob k) hsim
    rw [cold_step_good t ps f fc k d h3, spec_step t ps f fs k s h3]
    cases hE : Arith.isPastEof (Arith.coldReadBit d (ps.getD k 0)).2 with
    | true =>
      -- the crate ran out on this bit: it walks left to a leaf; the RFC walk ends somewhere
      rw [b3 hE]
      obtain ⟨v, hv⟩ := cold_next_eof t ps f fc k false _ h3 (by omega) b1.2.1 hE
      obtain ⟨v', s', hs1, hs2, hs3⟩ := spec_next_total t ps f fs k (BoolDec.readBool s (ps.getD k 0)).1
        (BoolDec.readBool s (ps.getD k 0)).2 h3 (by omega)
      exact ⟨v, _, v', s', hv, hs1, b1.dead hE s' hs2 hs3, fun he => by rw [hE] at he; cases he⟩
    | false =>
      rw [(b2 hE).2]
      unfold Arith.coldNext specNext
      rcases branch_cases t ps f k h3 (BoolDec.readBool s (ps.getD k 0)).1 _ rfl with ⟨e1, e2, e3, e4, e5⟩ | ⟨e1, e2, e6⟩
      · rw [f.size, e2, if_pos e3, if_pos e1, e5, Nat.mul_div_cancel_left _ (by decide : 0 < 2)]
        exact ih fs _ _ _ (by omega) (by omega) e3 b1
      · rw [f.size, if_neg (Nat.not_lt.mpr e2), if_neg e1]
        exact ⟨_, _, _, _, rfl, rfl, b1, fun _ => e6⟩

end ArithRfc
