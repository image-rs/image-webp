import WebpVerif.Lemmas.EncHuffHeap
import WebpVerif.Lemmas.EncHuffLimit

/-!
The tree `build_huffman_tree` builds by always merging the two least frequent items is too shallow
for the `depth as u8` cast to wrap: every node weighs at least as much as its nephews, so the
weight grows like the Fibonacci numbers along every path, and a total below 2^32 leaves room for
depth 46 at most.
-/
namespace EncHuff

/-- weight of a tree: the sum of the frequencies of its leaves -/
def wt (fr : List Nat) : Tree → Nat
  | .leaf i => fr[i]!
  | .node l r => wt fr l + wt fr r

def height : Tree → Nat
  | .leaf _ => 0
  | .node l r => 1 + max (height l) (height r)

/-- weight of the heavier child (0 for a leaf) -/
def childMax (fr : List Nat) : Tree → Nat
  | .leaf _ => 0
  | .node l r => max (wt fr l) (wt fr r)

/-- every node weighs at least as much as the children of its sibling -/
def Bal (fr : List Nat) : Tree → Prop
  | .leaf _ => True
  | .node a b => Bal fr a ∧ Bal fr b ∧ childMax fr a ≤ wt fr b ∧ childMax fr b ≤ wt fr a

def PosLeaves (fr : List Nat) : Tree → Prop
  | .leaf i => 1 ≤ fr[i]!
  | .node l r => PosLeaves fr l ∧ PosLeaves fr r

/-- 1, 2, 3, 5, 8, … -/
def fibPair : Nat → Nat × Nat
  | 0 => (1, 2)
  | n + 1 => ((fibPair n).2, (fibPair n).1 + (fibPair n).2)

def g (n : Nat) : Nat := (fibPair n).1

theorem g_succ_succ (n : Nat) : g (n + 2) = g (n + 1) + g n := Nat.add_comm _ _

theorem g_zero : g 0 = 1 := rfl
theorem g_one : g 1 = 2 := rfl

theorem g_mono (a b : Nat) (h : a ≤ b) : g a ≤ g b := by
  induction h with
  | refl => exact Nat.le_refl _
  | @step b _ ih =>
    refine Nat.le_trans ih ?_
    cases b with
    | zero => decide
    | succ n => rw [g_succ_succ]; exact Nat.le_add_right _ _

theorem g47 : 2 ^ 32 ≤ g 47 := by decide

/-- the Fibonacci step at a node whose deeper child has height `ha`, weight `wa` and heavier child
    `cma`, the other child weighing `wb` -/
theorem fib_step (ha hb wa wb cma : Nat) (hle : hb ≤ ha) (a1 : g ha ≤ wa) (b1 : g hb ≤ wb)
    (a2 : 1 ≤ ha → g (ha - 1) ≤ cma) (c1 : cma ≤ wb) : g (1 + ha) ≤ wa + wb := by
  cases ha with
  | zero =>
    rw [Nat.le_zero.mp hle] at b1
    exact Nat.add_le_add a1 b1
  | succ m =>
    rw [Nat.add_comm, g_succ_succ]
    exact Nat.add_le_add a1 (Nat.le_trans (a2 (Nat.succ_pos m)) c1)

theorem bal_weight (fr : List Nat) : ∀ t : Tree, Bal fr t → PosLeaves fr t →
    g (height t) ≤ wt fr t ∧ (1 ≤ height t → g (height t - 1) ≤ childMax fr t) := by
  intro t
  induction t with
  | leaf i => intro _ hp; exact ⟨hp, fun h => absurd h (Nat.not_succ_le_zero 0)⟩
  | node a b iha ihb =>
    intro ⟨ba, bb, c1, c2⟩ ⟨pa, pb⟩
    obtain ⟨a1, a2⟩ := iha ba pa
    obtain ⟨b1, b2⟩ := ihb bb pb
    show g (1 + max (height a) (height b)) ≤ wt fr a + wt fr b ∧
      (_ → g (1 + max (height a) (height b) - 1) ≤ max (wt fr a) (wt fr b))
    rw [Nat.add_sub_cancel_left]
    rcases Nat.le_total (height b) (height a) with h | h
    · rw [Nat.max_eq_left h]
      exact ⟨fib_step _ _ _ _ _ h a1 b1 a2 c1, fun _ => Nat.le_trans a1 (Nat.le_max_left _ _)⟩
    · rw [Nat.max_eq_right h, Nat.add_comm (wt fr a)]
      exact ⟨fib_step _ _ _ _ _ h b1 a1 b2 c2, fun _ => Nat.le_trans b1 (Nat.le_max_right _ _)⟩

theorem height_bound (fr : List Nat) (t : Tree) (hb : Bal fr t) (hp : PosLeaves fr t) (hw : wt fr t < 2 ^ 32) :
    height t ≤ 46 := by
  refine Decidable.byContradiction fun h => ?_
  have := Nat.le_trans (Nat.le_trans g47 (g_mono 47 (height t) (by omega))) (bal_weight fr t hb hp).1
  omega

theorem depths_le_height (t : Tree) : ∀ d0, ∀ p ∈ depths t d0, p.2 ≤ d0 + height t := by
  induction t with
  | leaf s => intro d0 p hp; rw [depths, List.mem_singleton] at hp; rw [hp]; exact Nat.le_refl _
  | node l r ihl ihr =>
    intro d0 p hp
    rw [depths, List.mem_append] at hp
    show _ ≤ d0 + (1 + max (height l) (height r))
    rcases hp with h | h
    · have := ihl (d0 + 1) p h
      have := Nat.le_max_left (height l) (height r)
      omega
    · have := ihr (d0 + 1) p h
      have := Nat.le_max_right (height l) (height r)
      omega

/-- what the merge loop keeps of every item: its frequency is the weight of its tree, the tree is
    balanced, and the bound `M` (the larger frequency of the last merge) separates the children of every
    root from the roots -/
structure ItemInv (fr : List Nat) (M : Nat) (it : Item) : Prop where
  fw : it.freq = wt fr it.tree
  bal : Bal fr it.tree
  cm : childMax fr it.tree ≤ M
  ge : M ≤ it.freq
  pos : PosLeaves fr it.tree

theorem fq_of_mem (h : Heap) (it : Item) (hm : it ∈ h.toList) : ∃ j, j < h.size ∧ fq h j = it.freq := by
  obtain ⟨j, hj, e⟩ := List.mem_iff_getElem.mp hm
  refine ⟨j, hj, ?_⟩
  unfold fq
  rw [Array.getElem!_eq_getD, Array.getD_eq_getD_getElem?, ← Array.getElem?_toList, List.getElem?_eq_getElem hj, e]
  rfl

theorem mergeLoop_bal (fr : List Nat) (fuel : Nat) (h : Heap) (M : Nat) (mh : MinHeap h)
    (hq : ∀ it ∈ h.toList, ItemInv fr M it) : ∃ M', ∀ it ∈ (mergeLoop h fuel).toList, ItemInv fr M' it := by
  refine (mergeLoop_induct (fun g => MinHeap g ∧ ∃ M, ∀ it ∈ g.toList, ItemInv fr M it) ?_ fuel h ⟨mh, M, hq⟩).2
  intro h a h' ⟨mh, M, hq⟩ hp hgt
  obtain ⟨tl, htl, p1, hr⟩ := pop_replaceTop h a h' hp hgt
  obtain ⟨mh', hamin⟩ := pop_heap h a h' mh hp
  have hbmem : h'[0]! ∈ h'.toList := by rw [htl]; exact List.mem_cons_self
  have qa := hq a (p1.subset List.mem_cons_self)
  have qb := hq _ (p1.subset (List.mem_cons_of_mem _ hbmem))
  have hab : a.freq ≤ h'[0]!.freq := by
    obtain ⟨j, hj, e⟩ := fq_of_mem h _ (p1.subset (List.mem_cons_of_mem _ hbmem))
    exact e ▸ hamin j hj
  refine ⟨replaceTop_heap h' _ mh', h'[0]!.freq, fun it hit => ?_⟩
  rcases List.mem_cons.mp ((hr _).subset hit) with rfl | hit'
  · -- the merged item
    exact { fw := by show a.freq + h'[0]!.freq = wt fr a.tree + wt fr h'[0]!.tree; rw [qa.fw, qb.fw]
            bal := ⟨qa.bal, qb.bal, qb.fw ▸ Nat.le_trans qa.cm qb.ge, qa.fw ▸ Nat.le_trans qb.cm qa.ge⟩
            cm := by
              show max (wt fr a.tree) (wt fr h'[0]!.tree) ≤ h'[0]!.freq
              rw [← qa.fw, ← qb.fw]; exact Nat.max_le.mpr ⟨hab, Nat.le_refl _⟩
            ge := Nat.le_add_left _ _
            pos := ⟨qa.pos, qb.pos⟩ }
  · -- an item that stays
    have hmem' : it ∈ h'.toList := by rw [htl]; exact List.mem_cons_of_mem _ hit'
    have qi := hq it (p1.subset (List.mem_cons_of_mem _ hmem'))
    obtain ⟨j, hj, e⟩ := fq_of_mem h' it hmem'
    exact { fw := qi.fw, bal := qi.bal, cm := Nat.le_trans qi.cm qb.ge, ge := e ▸ root_min h' mh' j hj, pos := qi.pos }

theorem wt_leaves (fr : List Nat) : ∀ t : Tree, wt fr t = ((leaves t).map fun i => fr[i]!).sum := by
  intro t
  induction t with
  | leaf i => exact (Nat.add_zero _).symm
  | node l r ihl ihr => rw [wt, leaves, List.map_append, List.sum_append, ihl, ihr]

theorem wt_used (freqs : List Nat) (t : Tree) (hperm : (leaves t).Perm (usedIdx freqs)) : wt freqs t = freqs.sum := by
  have hall : (List.range freqs.length).map (fun i => freqs[i]!) = freqs := by
    have := congrArg (List.map Prod.snd) (zip_range freqs)
    rw [List.map_snd_zip (Nat.le_of_eq List.length_range.symm), List.map_map] at this
    exact this.symm
  rw [wt_leaves, (hperm.map _).sum_nat, usedIdx_eq,
    ← sum_map_zero_filter _ _ _ (fun i _ h => Nat.eq_zero_of_not_pos (of_decide_eq_false h)), hall]

/-- **The property for every histogram whose frequencies sum to less than 2^32** - no bound on the
    number of used symbols: the four phases of `build` assembled.  The conclusion is `BuildOk freqs
    limit` written out -/
theorem build_full_all (freqs : List Nat) (limit : Nat) (h1 : 1 ≤ limit) (h15 : limit ≤ 15)
    (h2 : 2 ≤ (freqs.filter (· > 0)).length) (hsum : freqs.sum < 2 ^ 32)
    (hspace : freqs.length ≤ 2 ^ limit) :
    ∃ lengths codes, build freqs limit = .built lengths codes ∧ lengths.size = freqs.length ∧
      (∀ i, i < freqs.length → (freqs[i]! = 0 → lengths[i]! = 0) ∧ (freqs[i]! > 0 → 1 ≤ lengths[i]! ∧ lengths[i]! ≤ limit)) ∧
      Prefix.kraft lengths.toList limit = 2 ^ limit ∧
      (∀ i, i < freqs.length → lengths[i]! ≠ 0 →
        some codes[i]! = (Prefix.canonicalCode lengths.toList i).map fun c => Prefix.reverseBits c lengths[i]!) := by
  rw [← used_count] at h2
  obtain ⟨root, hfin, hperm, hL⟩ := treeLengths_spec freqs (Nat.le_of_succ_le h2)
  -- every initial item is a positive leaf
  obtain ⟨M, hq⟩ := mergeLoop_bal freqs (itemsOf freqs).toArray.size (rebuild (itemsOf freqs).toArray) 0
    (rebuild_heap _) (fun it hit => by
      have : it ∈ itemsOf freqs := (rebuild_perm (itemsOf freqs).toArray).subset hit
      rw [itemsOf_eq] at this
      obtain ⟨i, hi, rfl⟩ := List.mem_map.mp this
      exact ⟨rfl, trivial, Nat.le_refl _, Nat.zero_le _, ((mem_usedIdx freqs i).mp hi).2⟩)
  have qr := hq root (by show root ∈ (finalHeap freqs).toList; rw [hfin]; exact List.mem_cons_self)
  refine build_of_tree freqs limit h1 h15 h2 hspace root.tree hperm (hL fun p hp => ?_)
  have hh := height_bound freqs root.tree qr.bal qr.pos (by rw [wt_used freqs _ hperm]; exact hsum)
  have := depths_le_height root.tree 0 p hp
  omega

end EncHuff
