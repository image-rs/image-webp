import WebpVerif.Lemmas.EncHuff
import Mathlib.Tactic.Ring
import Mathlib.Data.List.Basic

/-!
Phases 1-2 of `build_huffman_tree`: whatever the heap's order and tie-breaking, the merge loop
ends with ONE tree whose leaves are exactly the used symbols, each once; the depth walk then
gives every used symbol its depth and leaves the others at 0.
-/
namespace EncHuff

def leaves : Tree → List Nat
  | .leaf s => [s]
  | .node l r => leaves l ++ leaves r

def heapLeaves (l : List Item) : List Nat := l.flatMap (fun it => leaves it.tree)

theorem heapLeaves_perm {a b : List Item} (h : a.Perm b) : (heapLeaves a).Perm (heapLeaves b) :=
  List.Perm.flatMap_right _ h

theorem swapIf_perm (h : Heap) (i j : Nat) : (h.swapIfInBounds i j).toList.Perm h.toList := by
  rw [Array.swapIfInBounds_def]
  split
  · split
    · exact (Array.perm_iff_toList_perm.mp (Array.swap_perm ‹_› ‹_›))
    · exact .refl _
  · exact .refl _

theorem siftDownRange_perm (endd : Nat) : ∀ fuel (pos : Nat) (h : Heap), (siftDownRange h pos endd fuel).toList.Perm h.toList := by
  intro fuel
  induction fuel with
  | zero => intro pos h; exact .refl _
  | succ fuel ih =>
    intro pos h
    rw [siftDownRange]
    simp only
    split
    · generalize (if le h[2 * pos + 1]! h[2 * pos + 1 + 1]! then 2 * pos + 1 + 1 else 2 * pos + 1) = c
      split
      · exact .refl _
      · exact (ih _ _).trans (swapIf_perm _ _ _)
    · split
      · exact swapIf_perm _ _ _
      · exact .refl _

theorem siftUp_perm (start : Nat) : ∀ fuel (pos : Nat) (h : Heap), (siftUp h start pos fuel).toList.Perm h.toList := by
  intro fuel
  induction fuel with
  | zero => intro pos h; exact .refl _
  | succ fuel ih =>
    intro pos h
    rw [siftUp]
    simp only
    split
    · split
      · exact .refl _
      · exact (ih _ _).trans (swapIf_perm _ _ _)
    · exact .refl _

theorem descend_perm (endd : Nat) : ∀ fuel (pos : Nat) (h : Heap), (descend h pos endd fuel).1.toList.Perm h.toList := by
  intro fuel
  induction fuel with
  | zero => intro pos h; exact .refl _
  | succ fuel ih =>
    intro pos h
    rw [descend]
    simp only
    split
    · exact (ih _ _).trans (swapIf_perm _ _ _)
    · split
      · exact swapIf_perm _ _ _
      · exact .refl _

theorem siftDownToBottom_perm (h : Heap) : (siftDownToBottom h).toList.Perm h.toList :=
  (siftUp_perm 0 _ _ _).trans (descend_perm _ _ _ _)

theorem rebuild_perm (h : Heap) : (rebuild h).toList.Perm h.toList := by
  unfold rebuild
  generalize (List.range (h.size / 2)).reverse = ns
  generalize h.size = sz
  induction ns generalizing h with
  | nil => exact .refl _
  | cons n ns ih => exact (ih _).trans (siftDownRange_perm _ _ _ _)

theorem siftDownRange_size (h : Heap) (pos endd fuel : Nat) : (siftDownRange h pos endd fuel).size = h.size := by
  simpa using (siftDownRange_perm endd fuel pos h).length_eq

theorem descend_size (h : Heap) (pos endd fuel : Nat) : (descend h pos endd fuel).1.size = h.size := by
  simpa using (descend_perm endd fuel pos h).length_eq

theorem siftDownToBottom_size (h : Heap) : (siftDownToBottom h).size = h.size := by
  simpa using (siftDownToBottom_perm h).length_eq

theorem replaceTop_size (h : Heap) (it : Item) : (replaceTop h it).size = h.size := by
  unfold replaceTop; rw [siftDownRange_size, Array.set!_eq_setIfInBounds, Array.size_setIfInBounds]

theorem head_toList (h : Heap) (hs : 0 < h.size) :
    ∃ tl, h.toList = h[0]! :: tl ∧ ∀ it, (h.set! 0 it).toList = it :: tl := by
  obtain ⟨x, tl, hl⟩ := List.exists_cons_of_length_pos (l := h.toList) hs
  have hx : h[0]! = x := by
    rw [Array.getElem!_eq_getD, Array.getD_eq_getD_getElem?, ← Array.getElem?_toList, hl]; rfl
  exact ⟨tl, by rw [hl, hx], fun it => by rw [Array.set!_eq_setIfInBounds, Array.toList_setIfInBounds, hl]; rfl⟩

theorem pop_spec (h : Heap) (a : Item) (h' : Heap) (hp : pop h = some (a, h')) :
    (a :: h'.toList).Perm h.toList ∧ h'.size + 1 = h.size := by
  suffices hperm : (a :: h'.toList).Perm h.toList from ⟨hperm, hperm.length_eq⟩
  unfold pop at hp
  split at hp
  · cases hp
  · simp only at hp
    have hlast : h.toList = h.pop.toList ++ [h[h.size - 1]!] := by
      have := congrArg Array.toList (Array.eq_push_pop_back!_of_size_ne_zero (xs := h) ‹_›)
      rwa [Array.toList_push] at this
    rw [hlast]
    split at hp
    · obtain ⟨rfl, rfl⟩ := Prod.mk.inj (Option.some.inj hp)
      exact (List.perm_append_singleton _ _).symm
    · obtain ⟨rfl, rfl⟩ := Prod.mk.inj (Option.some.inj hp)
      obtain ⟨tl, htl, hset⟩ := head_toList h.pop (Nat.pos_of_ne_zero ‹_›)
      have := (siftDownToBottom_perm (h.pop.set! 0 h[h.size - 1]!)).trans (.of_eq (hset _))
      rw [htl]
      exact ((this.cons _).trans (.swap _ _ _)).trans (List.perm_append_singleton _ _).symm

theorem pop_some (h : Heap) (hs : h.size ≠ 0) : ∃ a h', pop h = some (a, h') := by
  unfold pop
  rw [if_neg hs]
  simp only
  split <;> exact ⟨_, _, rfl⟩

/-- the item the merge loop puts back for the two it took -/
def merged (a b : Item) : Item := { freq := a.freq + b.freq, tree := .node a.tree b.tree }

/-- one round of the merge loop, on the multiset of items: `a` and the next top are replaced by `m` -/
theorem pop_replaceTop (h : Heap) (a : Item) (h' : Heap) (hp : pop h = some (a, h')) (hgt : 1 < h.size) :
    ∃ tl, h'.toList = h'[0]! :: tl ∧ (a :: h'.toList).Perm h.toList ∧
      ∀ m, (replaceTop h' m).toList.Perm (m :: tl) := by
  obtain ⟨p1, p2⟩ := pop_spec h a h' hp
  obtain ⟨tl, htl, hset⟩ := head_toList h' (by rw [← p2] at hgt; exact Nat.lt_of_succ_lt_succ hgt)
  exact ⟨tl, htl, p1, fun m => (siftDownRange_perm _ _ _ _).trans (.of_eq (hset m))⟩

theorem mergeLoop_induct (P : Heap → Prop)
    (step : ∀ (h : Heap) (a : Item) (h' : Heap), P h → pop h = some (a, h') → 1 < h.size →
      P (replaceTop h' (merged a h'[0]!))) :
    ∀ fuel h, P h → P (mergeLoop h fuel) := by
  intro fuel
  induction fuel with
  | zero => intro h hP; exact hP
  | succ fuel ih =>
    intro h hP
    rw [mergeLoop]
    split
    · split
      · exact hP
      · exact ih _ (step h _ _ hP ‹_› ‹_›)
    · exact hP

theorem mergeLoop_size : ∀ fuel (h : Heap), 1 ≤ h.size → h.size ≤ fuel + 1 → (mergeLoop h fuel).size = 1 := by
  intro fuel
  induction fuel with
  | zero => intro h h1 h2; exact Nat.le_antisymm h2 h1
  | succ fuel ih =>
    intro h h1 h2
    rw [mergeLoop]
    split
    · next hgt =>
      obtain ⟨a, h', hp⟩ := pop_some h (Nat.ne_of_gt h1)
      rw [hp]
      have := (pop_spec h a h' hp).2
      rw [← this] at hgt h2
      exact ih _ (by rw [replaceTop_size]; exact Nat.le_of_lt_succ hgt) (by rw [replaceTop_size]; exact Nat.le_of_succ_le_succ h2)
    · next hgt => exact Nat.le_antisymm (Nat.le_of_not_lt hgt) h1

theorem mergeLoop_leaves (fuel : Nat) (h : Heap) : (heapLeaves (mergeLoop h fuel).toList).Perm (heapLeaves h.toList) := by
  refine mergeLoop_induct (fun g => (heapLeaves g.toList).Perm (heapLeaves h.toList)) ?_ fuel h (.refl _)
  intro g a g' hP hp hgt
  obtain ⟨tl, htl, p1, hr⟩ := pop_replaceTop g a g' hp hgt
  refine ((heapLeaves_perm (hr _)).trans (.of_eq ?_)).trans ((heapLeaves_perm p1).trans hP)
  rw [htl]
  simp [heapLeaves, merged, leaves]

theorem depths_fst (t : Tree) : ∀ d, (depths t d).map Prod.fst = leaves t := by
  induction t with
  | leaf s => intro d; rfl
  | node l r ihl ihr => intro d; simp only [depths, leaves, List.map_append, ihl, ihr]

theorem depths_length (t : Tree) (d : Nat) : (depths t d).length = (leaves t).length := by
  rw [← depths_fst t d, List.length_map]

theorem setFold_spec : ∀ (ds : List (Nat × Nat)) (a : Array Nat), (ds.map Prod.fst).Nodup →
    (ds.foldl (fun a (p : Nat × Nat) => a.setIfInBounds p.1 (p.2 % 256)) a).size = a.size ∧
    (∀ p ∈ ds, p.1 < a.size → (ds.foldl (fun a (p : Nat × Nat) => a.setIfInBounds p.1 (p.2 % 256)) a)[p.1]! = p.2 % 256) ∧
    (∀ i, i ∉ ds.map Prod.fst → (ds.foldl (fun a (p : Nat × Nat) => a.setIfInBounds p.1 (p.2 % 256)) a)[i]! = a[i]!) := by
  intro ds
  induction ds with
  | nil => intro a _; exact ⟨rfl, fun p hp => absurd hp (by simp), fun i _ => rfl⟩
  | cons x ds ih =>
    intro a hnd
    rw [List.map_cons, List.nodup_cons] at hnd
    obtain ⟨i1, i2, i3⟩ := ih (a.setIfInBounds x.1 (x.2 % 256)) hnd.2
    rw [List.foldl_cons]
    refine ⟨by rw [i1, Array.size_setIfInBounds], ?_, ?_⟩
    · intro p hp hlt
      rcases List.mem_cons.mp hp with rfl | hp
      · rw [i3 _ hnd.1, ArrayWrites.get_set, if_pos ⟨rfl, hlt⟩]
      · exact i2 p hp (by rw [Array.size_setIfInBounds]; exact hlt)
    · intro i hi
      rw [List.map_cons, List.mem_cons, not_or] at hi
      rw [i3 i hi.2, ArrayWrites.get_set, if_neg (fun h => hi.1 h.1)]

/-- the used symbols, in increasing order -/
def usedIdx (freqs : List Nat) : List Nat :=
  ((List.range freqs.length).zip freqs).filterMap (fun (p : Nat × Nat) => if p.2 > 0 then some p.1 else none)

def itemsOf (freqs : List Nat) : List Item :=
  ((List.range freqs.length).zip freqs).filterMap (fun (p : Nat × Nat) =>
    if p.2 > 0 then some { freq := p.2, tree := .leaf p.1 } else none)

theorem zip_range (l : List Nat) : (List.range l.length).zip l = (List.range l.length).map (fun i => (i, l[i]!)) := by
  apply List.ext_getElem
  · rw [List.length_zip, List.length_range, Nat.min_self, List.length_map, List.length_range]
  · intro i h1 h2
    rw [List.length_map, List.length_range] at h2
    rw [List.getElem_zip, List.getElem_map, List.getElem_range, getElem!_pos l i h2]

theorem filterMap_ite {α β : Type} (P : α → Prop) [DecidablePred P] (f : α → β) (l : List α) :
    l.filterMap (fun x => if P x then some (f x) else none) = (l.filter (fun x => decide (P x))).map f := by
  induction l with
  | nil => rfl
  | cons x l ih => by_cases h : P x <;> simp [h, ih]

theorem usedIdx_eq (freqs : List Nat) : usedIdx freqs = (List.range freqs.length).filter (fun i => freqs[i]! > 0) := by
  unfold usedIdx
  rw [zip_range, List.filterMap_map]
  exact (filterMap_ite (fun i => freqs[i]! > 0) id _).trans (List.map_id _)

theorem itemsOf_eq (freqs : List Nat) :
    itemsOf freqs = (usedIdx freqs).map fun i => { freq := freqs[i]!, tree := .leaf i } := by
  unfold itemsOf
  rw [usedIdx_eq, zip_range, List.filterMap_map]
  exact filterMap_ite (fun i => freqs[i]! > 0) _ _

theorem heapLeaves_itemsOf (freqs : List Nat) : heapLeaves (itemsOf freqs) = usedIdx freqs := by
  rw [itemsOf_eq, heapLeaves, List.flatMap_map]
  exact List.flatMap_singleton' _

theorem usedIdx_nodup (freqs : List Nat) : (usedIdx freqs).Nodup := by
  rw [usedIdx_eq]; exact List.Nodup.sublist List.filter_sublist List.nodup_range

theorem mem_usedIdx (freqs : List Nat) (i : Nat) : i ∈ usedIdx freqs ↔ i < freqs.length ∧ freqs[i]! > 0 := by
  rw [usedIdx_eq]; simp

theorem used_count (freqs : List Nat) : (usedIdx freqs).length = (freqs.filter (· > 0)).length := by
  unfold usedIdx
  rw [filterMap_ite (fun p : Nat × Nat => p.2 > 0) Prod.fst, List.length_map]
  conv => rhs; rw [← List.map_snd_zip (l₁ := List.range freqs.length) (l₂ := freqs) (by simp), List.filter_map, List.length_map]
  rfl

theorem leaves_pos (t : Tree) : 1 ≤ (leaves t).length := by
  induction t with
  | leaf s => simp [leaves]
  | node l r ihl _ => simp only [leaves, List.length_append]; omega

/-- with at least two leaves the root is a node, so every leaf has a length -/
theorem depths_pos_of_two (t : Tree) (h : 2 ≤ (leaves t).length) : ∀ p ∈ depths t 0, 1 ≤ p.2 := by
  cases t with
  | leaf s => exact absurd h (by simp [leaves])
  | node l r => exact depths_pos l r

theorem depth_lt_leaves (t : Tree) : ∀ d0, ∀ p ∈ depths t d0, p.2 + 1 ≤ d0 + (leaves t).length := by
  induction t with
  | leaf s => intro d0 p hp; simp [depths] at hp; subst hp; simp [leaves]
  | node l r ihl ihr =>
    intro d0 p hp
    simp only [depths, List.mem_append] at hp
    have hl := leaves_pos l
    have hr := leaves_pos r
    simp only [leaves, List.length_append]
    rcases hp with hp | hp
    · have := ihl (d0 + 1) p hp; omega
    · have := ihr (d0 + 1) p hp; omega

/-- the heap the merge loop of `treeLengths` ends with -/
def finalHeap (freqs : List Nat) : Heap := mergeLoop (rebuild (itemsOf freqs).toArray) (itemsOf freqs).toArray.size

/-- what the lengths array holds, given a tree over the used symbols -/
structure LengthsOf (freqs : List Nat) (t : Tree) (lengths : Array Nat) : Prop where
  size : lengths.size = freqs.length
  used : ∀ p ∈ depths t 0, lengths[p.1]! = p.2
  unused : ∀ i, i ∉ usedIdx freqs → lengths[i]! = 0

theorem lengthsOf_tree (freqs : List Nat) (t : Tree) (hp : (leaves t).Perm (usedIdx freqs))
    (hdepth : ∀ p ∈ depths t 0, p.2 < 256) : LengthsOf freqs t (setLengths freqs.length (depths t 0)) := by
  have hnd : ((depths t 0).map Prod.fst).Nodup := by rw [depths_fst]; exact hp.nodup_iff.mpr (usedIdx_nodup freqs)
  obtain ⟨s1, s2, s3⟩ := setFold_spec (depths t 0) (Array.replicate freqs.length 0) hnd
  refine ⟨s1.trans Array.size_replicate, ?_, ?_⟩
  · intro p hpm
    have hmem : p.1 ∈ usedIdx freqs := hp.mem_iff.mp (by rw [← depths_fst t 0]; exact List.mem_map_of_mem hpm)
    have hlt := ((mem_usedIdx freqs p.1).mp hmem).1
    exact (s2 p hpm (by rw [Array.size_replicate]; exact hlt)).trans (Nat.mod_eq_of_lt (hdepth p hpm))
  · intro i hi
    refine (s3 i (by rw [depths_fst]; exact fun h => hi (hp.mem_iff.mp h))).trans ?_
    by_cases hlt : i < freqs.length <;> simp [hlt]

/-- **Phases 1-2**: with at least one used symbol the merge loop ends with a single item; the
    leaves of its tree are exactly the used symbols, and the lengths are their depths in it as long
    as the `depth as u8` cast is exact -/
theorem treeLengths_spec (freqs : List Nat) (h1 : 1 ≤ (usedIdx freqs).length) :
    ∃ root, (finalHeap freqs).toList = [root] ∧ (leaves root.tree).Perm (usedIdx freqs) ∧
      ((∀ p ∈ depths root.tree 0, p.2 < 256) → LengthsOf freqs root.tree (treeLengths freqs)) := by
  have hsz : (itemsOf freqs).toArray.size = (usedIdx freqs).length := by rw [itemsOf_eq]; exact List.length_map _
  have hrs : (rebuild (itemsOf freqs).toArray).size = (usedIdx freqs).length :=
    (rebuild_perm (itemsOf freqs).toArray).length_eq.trans hsz
  obtain ⟨root, hroot⟩ := Array.size_eq_one_iff.mp (mergeLoop_size (itemsOf freqs).toArray.size
    (rebuild (itemsOf freqs).toArray) (hrs ▸ h1) (by rw [hrs, hsz]; exact Nat.le_succ _))
  have hperm : (leaves root.tree).Perm (usedIdx freqs) := by
    have := (mergeLoop_leaves (itemsOf freqs).toArray.size _).trans (heapLeaves_perm (rebuild_perm (itemsOf freqs).toArray))
    rw [hroot] at this
    rw [← heapLeaves_itemsOf, ← List.append_nil (leaves root.tree)]
    exact this
  refine ⟨root, by unfold finalHeap; rw [hroot], hperm, fun hdepth => ?_⟩
  have : treeLengths freqs = setLengths freqs.length (depths root.tree 0) := by
    unfold treeLengths
    unfold itemsOf at hroot
    dsimp only
    rw [hroot]
    rfl
  rw [this]
  exact lengthsOf_tree freqs root.tree hperm hdepth

/-- with at most 256 used symbols no leaf is deeper than 255, so the `depth as u8` cast is exact -/
theorem treeLengths_upto_256 (freqs : List Nat) (h1 : 1 ≤ (usedIdx freqs).length) (h256 : (usedIdx freqs).length ≤ 256) :
    ∃ t, (leaves t).Perm (usedIdx freqs) ∧ LengthsOf freqs t (treeLengths freqs) := by
  obtain ⟨root, _, hperm, hL⟩ := treeLengths_spec freqs h1
  refine ⟨root.tree, hperm, hL fun p hp => ?_⟩
  have := depth_lt_leaves root.tree 0 p hp
  rw [hperm.length_eq] at this
  omega

theorem toList_range (a : Array Nat) : a.toList = (List.range a.size).map (fun i => a[i]!) := by
  apply List.ext_getElem
  · rw [Array.length_toList, List.length_map, List.length_range]
  · intro i h1 h2
    rw [List.getElem_map, List.getElem_range, Array.getElem_toList, getElem!_pos a i h1]

theorem sum_map_zero_filter (l : List Nat) (f : Nat → Nat) (P : Nat → Bool) (h : ∀ i ∈ l, P i = false → f i = 0) :
    (l.map f).sum = ((l.filter P).map f).sum := by
  induction l with
  | nil => rfl
  | cons x l ih =>
    have ih' := ih (fun i hi => h i (List.mem_cons_of_mem _ hi))
    cases hx : P x
    · simp only [List.map_cons, List.sum_cons, List.filter_cons, hx, Bool.false_eq_true, if_false, ih',
        h x (List.mem_cons_self ..) hx, Nat.zero_add]
    · simp only [List.map_cons, List.sum_cons, List.filter_cons, hx, if_true, ih']

theorem sum_used (freqs : List Nat) (lengths : Array Nat) (hsz : lengths.size = freqs.length)
    (hun : ∀ i, i ∉ usedIdx freqs → lengths[i]! = 0) (g : Nat → Nat) (hg0 : g 0 = 0) :
    (lengths.toList.map g).sum = ((usedIdx freqs).map fun i => g lengths[i]!).sum := by
  rw [toList_range, List.map_map, hsz, usedIdx_eq]
  exact sum_map_zero_filter _ _ _ (fun i _ hf => by
    show g lengths[i]! = 0
    rw [hun i (fun hm => (of_decide_eq_false hf) ((mem_usedIdx freqs i).mp hm).2), hg0])

theorem sum_over_used (freqs : List Nat) (t : Tree) (lengths : Array Nat)
    (hp : (leaves t).Perm (usedIdx freqs)) (hl : LengthsOf freqs t lengths) (g : Nat → Nat) (hg0 : g 0 = 0) :
    (lengths.toList.map g).sum = ((depths t 0).map fun p => g p.2).sum := by
  have hperm : ((depths t 0).map Prod.fst).Perm (usedIdx freqs) := by rw [depths_fst]; exact hp
  rw [sum_used freqs lengths hl.size hl.unused g hg0, ← (hperm.map _).sum_nat, List.map_map]
  exact congrArg List.sum (List.map_congr_left fun p hpm => congrArg g (hl.used p hpm))

theorem kraft_eq_sum (ls : List Nat) (L : Nat) :
    Prefix.kraft ls L = (ls.map fun l => if l = 0 then 0 else 2 ^ (L - l)).sum := by
  unfold Prefix.kraft
  rw [foldl_add_sum (fun l => 2 ^ (L - l)),
    sum_map_zero_filter ls _ (· ≠ 0) (fun x _ h => if_pos (by simpa using h))]
  exact congrArg List.sum (List.map_congr_left fun x hx => (if_neg (by simpa using (List.mem_filter.mp hx).2)).symm)

theorem kraft_of_lengths (freqs : List Nat) (t : Tree) (lengths : Array Nat) (L : Nat)
    (hp : (leaves t).Perm (usedIdx freqs)) (hl : LengthsOf freqs t lengths) (hpos : ∀ p ∈ depths t 0, 1 ≤ p.2) :
    Prefix.kraft lengths.toList L = kraftOf (depths t 0) L := by
  rw [kraft_eq_sum, sum_over_used freqs t lengths hp hl _ rfl]
  exact congrArg List.sum (List.map_congr_left fun p hpm => if_neg (by have := hpos p hpm; omega))

end EncHuff
