import WebpVerif.Lemmas.EncHuffTree
import WebpVerif.Lemmas.EncHuffCodes

/-!
Phase 3 of `build_huffman_tree`: length limiting.

The level counts `c` enter the proofs through weighted sums `sumW w (cf c) L = Σ_{k=1..L} c[k]·w k`:
`total` is the sum with weight `2^(L−k)`, the number of used symbols the sum with weight 1.  So the
lemmas say what a change of one count does to such a sum for every weight at once.
The file ends with phases 3 and 4 of `build` for any tree over the used symbols (`build_of_tree`).
-/
namespace EncHuff

def sumW (w f : Nat → Nat) (L : Nat) : Nat := ((List.range L).map fun k => f (k + 1) * w (k + 1)).sum

theorem sumW_succ (w f : Nat → Nat) (L : Nat) : sumW w f (L + 1) = sumW w f L + f (L + 1) * w (L + 1) := by
  unfold sumW; rw [List.range_succ, List.map_append, List.sum_append]; simp

theorem sumW_congr (w f g : Nat → Nat) (L : Nat) (h : ∀ k, 1 ≤ k → k ≤ L → f k = g k) : sumW w f L = sumW w g L := by
  induction L with
  | zero => rfl
  | succ L ih => rw [sumW_succ, sumW_succ, ih (fun k h1 h2 => h k h1 (by omega)), h (L + 1) (by omega) (Nat.le_refl _)]

theorem sumW_eq_zero (w f : Nat → Nat) (L : Nat) (h : ∀ k, 1 ≤ k → k ≤ L → f k * w k = 0) : sumW w f L = 0 := by
  induction L with
  | zero => rfl
  | succ L ih => rw [sumW_succ, ih (fun k h1 h2 => h k h1 (by omega)), h (L + 1) (by omega) (Nat.le_refl _)]

theorem sumW_pos_exists (w f : Nat → Nat) (L : Nat) (h : 0 < sumW w f L) : ∃ k, 1 ≤ k ∧ k ≤ L ∧ f k ≠ 0 := by
  by_contra hno
  have := sumW_eq_zero w f L (fun k h1 h2 => by
    rw [Decidable.byContradiction fun hk => hno ⟨k, h1, h2, hk⟩, Nat.zero_mul])
  omega

/-- no symbols, no weight -/
theorem sumW_count_zero (w f : Nat → Nat) : ∀ L, sumW (fun _ => 1) f L = 0 → sumW w f L = 0 := by
  intro L
  induction L with
  | zero => intro _; rfl
  | succ L ih =>
    intro h
    rw [sumW_succ, Nat.mul_one] at h
    rw [sumW_succ, ih (by omega), show f (L + 1) = 0 by omega, Nat.zero_mul]

theorem sumW_update (w f g : Nat → Nat) (L j : Nat) (hj1 : 1 ≤ j) (hjL : j ≤ L) (h : ∀ k, k ≠ j → g k = f k) :
    sumW w g L + f j * w j = sumW w f L + g j * w j := by
  induction L with
  | zero => omega
  | succ L ih =>
    rw [sumW_succ, sumW_succ]
    by_cases hjl : j = L + 1
    · subst hjl
      rw [sumW_congr w g f L (fun k _ h2 => h k (by omega))]; omega
    · rw [h (L + 1) (Ne.symm hjl)]
      have := ih (by omega)
      omega

theorem sumW_last (f : Nat → Nat) (L : Nat) (h1 : 1 ≤ L) : sumW (fun k => if k = L then 1 else 0) f L = f L := by
  obtain ⟨L, rfl⟩ := Nat.exists_eq_add_one.mpr h1
  rw [sumW_succ, sumW_eq_zero _ _ L (fun k _ hk => by rw [if_neg (by omega), Nat.mul_zero]), if_pos rfl, Nat.zero_add,
    Nat.mul_one]

def cf (c : Array Nat) (k : Nat) : Nat := c[k]!

theorem cf_modify (c : Array Nat) (i k : Nat) (f : Nat → Nat) (hi : i < c.size) :
    cf (c.modify i f) k = if k = i then f (cf c k) else cf c k := by
  unfold cf
  simp only [Array.getElem!_eq_getD, Array.getD_eq_getD_getElem?, Array.getElem?_modify]
  by_cases h : i = k
  · subst h; simp [hi]
  · rw [if_neg h, if_neg (Ne.symm h)]

theorem sumW_modify (w : Nat → Nat) (c : Array Nat) (L j a b : Nat) (φ : Nat → Nat) (hj1 : 1 ≤ j) (hjL : j ≤ L)
    (hL : L < c.size) (hφ : φ (cf c j) + a = cf c j + b) :
    sumW w (cf (c.modify j φ)) L + a * w j = sumW w (cf c) L + b * w j := by
  have hj := Nat.lt_of_le_of_lt hjL hL
  have h := sumW_update w (cf c) (cf (c.modify j φ)) L j hj1 hjL (fun k hk => by rw [cf_modify c j k φ hj, if_neg hk])
  rw [cf_modify c j j φ hj, if_pos rfl] at h
  have := congrArg (· * w j) hφ
  simp only [Nat.add_mul] at this
  omega

theorem sumW_inc (w : Nat → Nat) (c : Array Nat) (L j a : Nat) (hj1 : 1 ≤ j) (hjL : j ≤ L) (hL : L < c.size) :
    sumW w (cf (c.modify j (· + a))) L = sumW w (cf c) L + a * w j := by
  simpa using sumW_modify w c L j 0 a (· + a) hj1 hjL hL rfl

theorem sumW_dec (w : Nat → Nat) (c : Array Nat) (L j : Nat) (hj1 : 1 ≤ j) (hjL : j ≤ L) (hL : L < c.size)
    (hc : cf c j ≠ 0) : sumW w (cf (c.modify j (· - 1))) L + w j = sumW w (cf c) L := by
  simpa using sumW_modify w c L j 1 0 (· - 1) hj1 hjL hL (Nat.sub_add_cancel (Nat.pos_of_ne_zero hc))

theorem countLengths_spec (w : Nat → Nat) (lengths : Array Nat) (L : Nat) (h1 : 1 ≤ L) (h15 : L ≤ 15) :
    (countLengths lengths L).size = 16 ∧
    sumW w (cf (countLengths lengths L)) L = (lengths.toList.map fun l => if l = 0 then 0 else w (min l L)).sum := by
  unfold countLengths
  rw [← Array.foldl_toList]
  have : ∀ (ls : List Nat) (c : Array Nat), c.size = 16 →
      (ls.foldl (fun c l => c.modify (min l L) (· + 1)) c).size = 16 ∧
      sumW w (cf (ls.foldl (fun c l => c.modify (min l L) (· + 1)) c)) L =
        sumW w (cf c) L + (ls.map fun l => if l = 0 then 0 else w (min l L)).sum := by
    intro ls
    induction ls with
    | nil => intro c hc; exact ⟨hc, rfl⟩
    | cons x ls ih =>
      intro c hc
      obtain ⟨i1, i2⟩ := ih (c.modify (min x L) (· + 1)) (by rw [Array.size_modify]; exact hc)
      refine ⟨i1, ?_⟩
      rw [List.foldl_cons, i2, List.map_cons, List.sum_cons, ← Nat.add_assoc]
      congr 1
      have hL : L < c.size := hc ▸ Nat.lt_succ_of_le h15
      split
      · -- an unused symbol is counted at level 0, which no sum looks at
        next h0 =>
        rw [h0, Nat.zero_min]
        exact sumW_congr w _ _ L (fun k hk _ => by
          rw [cf_modify c 0 k _ (Nat.lt_of_le_of_lt (Nat.zero_le L) hL), if_neg (Nat.ne_of_gt hk)])
      · rw [sumW_inc w c L (min x L) 1 (Nat.le_min.mpr ⟨Nat.pos_of_ne_zero ‹_›, h1⟩) (Nat.min_le_right _ _) hL, Nat.one_mul]
  obtain ⟨a, b⟩ := this lengths.toList (Array.replicate 16 0) Array.size_replicate
  refine ⟨a, b.trans ?_⟩
  rw [sumW_eq_zero w _ L (fun k _ _ => by unfold cf; simp [show k < 16 by omega]), Nat.zero_add]

/-- **Clipping a subtree rooted at depth `d`**: with `W` the clipped weight `Σ 2^(L − min(depth, L))`
    and `C` the number of leaves at or below the limit level, `W` is at least the node's code space
    and exceeds it by at most `C`; from the limit level on every leaf is clipped and `W ≤ C` -/
theorem clip_tree (L : Nat) (t : Tree) : ∀ d,
    2 ^ (L - d) ≤ ((depths t d).map fun p => 2 ^ (L - min p.2 L)).sum ∧
    ((depths t d).map fun p => 2 ^ (L - min p.2 L)).sum ≤
      2 ^ (L - d) + ((depths t d).map fun p => if min p.2 L = L then 1 else 0).sum ∧
    (L ≤ d → ((depths t d).map fun p => 2 ^ (L - min p.2 L)).sum ≤
      ((depths t d).map fun p => if min p.2 L = L then 1 else 0).sum) := by
  induction t with
  | leaf s =>
    intro d
    simp only [depths, List.map_cons, List.map_nil, List.sum_cons, List.sum_nil, Nat.add_zero]
    by_cases hd : d < L
    · rw [Nat.min_eq_left (Nat.le_of_lt hd)]
      exact ⟨Nat.le_refl _, Nat.le_add_right _ _, fun h => absurd h (Nat.not_le_of_lt hd)⟩
    · rw [Nat.min_eq_right (Nat.le_of_not_lt hd), if_pos rfl, Nat.sub_self, Nat.sub_eq_zero_of_le (Nat.le_of_not_lt hd)]
      exact ⟨Nat.le_refl _, Nat.le_add_right _ _, fun _ => Nat.le_refl _⟩
  | node l r ihl ihr =>
    intro d
    simp only [depths, List.map_append, List.sum_append]
    have hl := ihl (d + 1)
    have hr := ihr (d + 1)
    by_cases hd : d < L
    · rw [two_pow_sub_succ hd]; omega
    · -- at or below the limit level both code spaces are 2^0
      rw [Nat.sub_eq_zero_of_le (by omega)] at hl hr ⊢; omega

theorem findLevel_spec (c : Array Nat) (k0 : Nat) (hk0 : c[k0]! ≠ 0) : ∀ m, k0 ≤ m →
    ∃ j, findLevel c m = some j ∧ k0 ≤ j ∧ j ≤ m ∧ c[j]! ≠ 0 ∧ ∀ k, j < k → k ≤ m → c[k]! = 0 := by
  intro m
  induction m with
  | zero =>
    intro h
    obtain rfl := Nat.le_zero.mp h
    exact ⟨0, by rw [findLevel, if_pos hk0], h, h, hk0, fun k h1 h2 => absurd h1 (Nat.not_lt.mpr h2)⟩
  | succ m ih =>
    intro h
    rw [findLevel]
    split
    · exact ⟨m + 1, rfl, h, Nat.le_refl _, ‹_›, fun k h1 h2 => by omega⟩
    · have hne : k0 ≠ m + 1 := fun e => ‹¬ _› (e ▸ hk0)
      obtain ⟨j, e1, e2, e3, e4, e5⟩ := ih (by omega)
      refine ⟨j, e1, e2, Nat.le_succ_of_le e3, e4, fun k h1 h2 => ?_⟩
      by_cases hk : k = m + 1
      · rw [hk]; exact Decidable.not_not.mp ‹_›
      · exact e5 k h1 (by omega)

/-- `U0` symbols are spread over the levels `1..L`; their scaled Kraft sum `total` is at least the
    code space and exceeds it by at most the number of symbols at level `L` -/
structure LInv (c : Array Nat) (L total U0 : Nat) : Prop where
  size : L < c.size
  tot : sumW (fun k => 2 ^ (L - k)) (cf c) L = total
  used : sumW (fun _ => 1) (cf c) L = U0
  ge : 2 ^ L ≤ total
  slack : total ≤ 2 ^ L + cf c L

/-- one move of the limiting loop: a leaf leaves level `i`, one leaves level `L`, two arrive at level
    `i + 1`; said for every weighted sum (`δ` = what the three leaves lose in weight), and for the
    count of level `L` -/
theorem sumW_move (c : Array Nat) (L i : Nat) (hL : L < c.size)
    (hi1 : 1 ≤ i) (hiL : i + 1 ≤ L) (hci : cf c i ≠ 0) (hcL : cf c L ≠ 0) :
    (∀ (w : Nat → Nat) (δ : Nat), w i + w L = 2 * w (i + 1) + δ →
      sumW w (cf (((c.modify i (· - 1)).modify L (· - 1)).modify (i + 1) (· + 2))) L + δ = sumW w (cf c) L) ∧
    cf c L ≤ cf (((c.modify i (· - 1)).modify L (· - 1)).modify (i + 1) (· + 2)) L + 1 := by
  have hi := Nat.le_of_succ_le hiL
  have hne : L ≠ i := Nat.ne_of_gt hiL
  have e1 : cf (c.modify i (· - 1)) L = cf c L := by rw [cf_modify c i L _ (Nat.lt_of_le_of_lt hi hL), if_neg hne]
  have hs1 : L < (c.modify i (· - 1)).size := by rw [Array.size_modify]; exact hL
  have e2 : cf ((c.modify i (· - 1)).modify L (· - 1)) L = cf c L - 1 := by rw [cf_modify _ L L _ hs1, if_pos rfl, e1]
  have hs2 : L < ((c.modify i (· - 1)).modify L (· - 1)).size := by rw [Array.size_modify]; exact hs1
  refine ⟨fun w δ hw => ?_, ?_⟩
  · have m1 := sumW_dec w c L i hi1 hi hL hci
    have m2 := sumW_dec w _ L L (Nat.le_trans hi1 hi) (Nat.le_refl _) hs1 (e1 ▸ hcL)
    have m3 := sumW_inc w _ L (i + 1) 2 (Nat.succ_pos _) hiL hs2
    omega
  · rw [cf_modify _ (i + 1) L _ (Nat.lt_of_le_of_lt hiL hs2), e2]
    split <;> omega

theorem LInv.last_ne_zero {c : Array Nat} {L total U0 : Nat} (inv : LInv c L total U0) (hgt : 2 ^ L < total) :
    c[L]! ≠ 0 := by
  have := inv.slack
  unfold cf at this
  omega

theorem limit_step (c : Array Nat) (L total U0 i : Nat) (inv : LInv c L total U0)
    (hgt : 2 ^ L < total) (hi1 : 1 ≤ i) (hiL : i + 1 ≤ L) (hci : cf c i ≠ 0) :
    LInv (((c.modify i (· - 1)).modify L (· - 1)).modify (i + 1) (· + 2)) L (total - 1) U0 := by
  have hs := inv.slack
  obtain ⟨move, hL⟩ := sumW_move c L i inv.size hi1 hiL hci (inv.last_ne_zero hgt)
  exact ⟨by simpa using inv.size,
    Nat.eq_sub_of_add_eq ((move (fun k => 2 ^ (L - k)) 1 (move_lowers_by_one L i hiL)).trans inv.tot),
    (move (fun _ => 1) 0 rfl).trans inv.used, Nat.le_sub_one_of_lt hgt,
    by have := Nat.two_pow_pos L; omega⟩

theorem limitLoop_spec (L U0 : Nat) (h1 : 1 ≤ L) (hU : U0 ≤ 2 ^ L) :
    ∀ fuel (c : Array Nat) (total : Nat), LInv c L total U0 → total - 2 ^ L ≤ fuel →
      ∃ c', limitLoop c L total fuel = some c' ∧ LInv c' L (2 ^ L) U0 := by
  intro fuel
  induction fuel with
  | zero =>
    intro c total inv hf
    obtain rfl := Nat.le_antisymm (Nat.sub_eq_zero_iff_le.mp (Nat.le_zero.mp hf)) inv.ge
    exact ⟨c, by rw [limitLoop, if_neg (Nat.lt_irrefl _)], inv⟩
  | succ fuel ih =>
    intro c total inv hf
    rw [limitLoop]
    split
    · obtain ⟨L', rfl⟩ := Nat.exists_eq_add_one.mpr h1
      -- some level in 1..L' is occupied, otherwise every symbol sits at the limit and the total is the symbol count
      obtain ⟨k, hk1, hkL, hk⟩ := sumW_pos_exists (fun _ => 1) (cf c) L' (Nat.pos_of_ne_zero fun h0 => by
        have ht := inv.tot
        have hu := inv.used
        rw [sumW_succ, sumW_count_zero _ _ L' h0] at ht
        rw [sumW_succ, h0] at hu
        simp only [Nat.sub_self, Nat.pow_zero] at ht
        omega)
      obtain ⟨i, hfl, hki, hiL, hci, _⟩ := findLevel_spec c k hk L' hkL
      rw [Nat.add_sub_cancel, hfl]
      simp only
      rw [if_neg (inv.last_ne_zero ‹_›)]
      exact ih _ _ (limit_step c (L' + 1) total U0 i inv ‹_› (Nat.le_trans hk1 hki) (Nat.succ_le_succ hiL) hci)
        (by rw [Nat.sub_right_comm]; exact Nat.sub_le_of_le_add hf)
    · obtain rfl := Nat.le_antisymm (Nat.le_of_not_lt ‹_›) inv.ge
      exact ⟨c, rfl, inv⟩

theorem down_eq_findLevel (c : Array Nat) : ∀ len k, len < k → reassign.down c len k = findLevel c len := by
  intro len
  induction len with
  | zero => intro k h; obtain ⟨k, rfl⟩ := Nat.exists_eq_add_one.mpr (Nat.zero_lt_of_lt h); rw [reassign.down, findLevel]; rfl
  | succ len ih =>
    intro k h
    obtain ⟨k, rfl⟩ := Nat.exists_eq_add_one.mpr (Nat.zero_lt_of_lt h)
    rw [reassign.down, findLevel, if_neg (Nat.succ_ne_zero len), Nat.add_sub_cancel, ih k (by omega)]

def usedPairs (l : List (Nat × Nat)) : List (Nat × Nat) := l.filter (fun p => decide (p.2 > 0))

/-- the reassignment hands out exactly the level counts, from the deepest level upwards -/
theorem reassign_spec (L : Nat) (h15 : L ≤ 15) : ∀ (l : List (Nat × Nat)) (len : Nat) (c lengths : Array Nat) (fuel : Nat),
    (l.map Prod.fst).Nodup → (∀ p ∈ l, p.1 < lengths.size) → len ≤ L → L < c.size →
    (∀ m, len < m → m ≤ L → cf c m = 0) → sumW (fun _ => 1) (cf c) L = (usedPairs l).length →
    ∃ lengths', reassign l len c lengths fuel = some lengths' ∧ lengths'.size = lengths.size ∧
      (∀ j, j ∉ (usedPairs l).map Prod.fst → lengths'[j]! = lengths[j]!) ∧
      (∀ p ∈ usedPairs l, 1 ≤ lengths'[p.1]! ∧ lengths'[p.1]! ≤ L) ∧
      ((usedPairs l).map fun p => 2 ^ (L - lengths'[p.1]!)).sum = sumW (fun k => 2 ^ (L - k)) (cf c) L := by
  intro l
  induction l with
  | nil =>
    intro len c lengths fuel _ _ _ _ _ hu
    exact ⟨lengths, rfl, rfl, fun j _ => rfl, fun p hp => absurd hp (by simp [usedPairs]),
      (sumW_count_zero _ _ L hu).symm⟩
  | cons x l ih =>
    intro len c lengths fuel hnd hlt hlen hsz htop hu
    rw [List.map_cons, List.nodup_cons] at hnd
    obtain ⟨i, f⟩ := x
    rw [reassign]
    split
    · -- a used symbol: take the deepest level still available
      have hup : usedPairs ((i, f) :: l) = (i, f) :: usedPairs l := by simp [usedPairs, ‹f > 0›]
      rw [hup] at hu ⊢
      obtain ⟨k, k1, k2, k3⟩ := sumW_pos_exists _ _ L (by rw [hu]; exact Nat.succ_pos _)
      have hkl : k ≤ len := Decidable.byContradiction fun hgt => k3 (htop k (Nat.lt_of_not_le hgt) k2)
      obtain ⟨j, d1, d2, d3, d4, d5⟩ := findLevel_spec c k k3 len hkl
      rw [← down_eq_findLevel c len 17 (by omega)] at d1
      have hj1 := Nat.le_trans k1 d2
      have hjL := Nat.le_trans d3 hlen
      have take := fun w => sumW_dec w c L j hj1 hjL hsz d4
      obtain ⟨lengths', r1, r2, r3, r4, r5⟩ := ih j (c.modify j (· - 1)) (lengths.setIfInBounds i j) fuel hnd.2
        (fun p hp => by rw [Array.size_setIfInBounds]; exact hlt p (List.mem_cons_of_mem _ hp)) hjL
        (by rw [Array.size_modify]; exact hsz)
        (fun m h1 h2 => by
          rw [cf_modify c j m _ (Nat.lt_of_le_of_lt hjL hsz), if_neg (Nat.ne_of_gt h1)]
          by_cases hml : m ≤ len
          · exact d5 m h1 hml
          · exact htop m (Nat.lt_of_not_le hml) h2)
        (Nat.succ.inj ((take fun _ => 1).trans hu))
      have hi_not : i ∉ (usedPairs l).map Prod.fst := fun hm => hnd.1 (by
        obtain ⟨p, hp, hpi⟩ := List.mem_map.mp hm
        exact List.mem_map.mpr ⟨p, (List.mem_filter.mp hp).1, hpi⟩)
      have hival : lengths'[i]! = j := by
        rw [r3 i hi_not, ArrayWrites.get_set, if_pos ⟨rfl, hlt (i, f) (List.mem_cons_self ..)⟩]
      rw [d1]
      refine ⟨lengths', r1, by rw [r2, Array.size_setIfInBounds], fun m hm => ?_, fun p hp => ?_, ?_⟩
      · rw [List.map_cons, List.mem_cons, not_or] at hm
        rw [r3 m hm.2, ArrayWrites.get_set, if_neg (fun h => hm.1 h.1)]
      · rcases List.mem_cons.mp hp with rfl | hp
        · rw [hival]; exact ⟨hj1, hjL⟩
        · exact r4 p hp
      · rw [List.map_cons, List.sum_cons, r5, hival, Nat.add_comm]
        exact take _
    · have hup : usedPairs ((i, f) :: l) = usedPairs l := by simp [usedPairs, ‹¬ f > 0›]
      rw [hup] at hu ⊢
      exact ih len c lengths fuel hnd.2 (fun p hp => hlt p (List.mem_cons_of_mem _ hp)) hlen hsz htop hu

theorem insertByFreq_perm (x : Nat × Nat) : ∀ l, (insertByFreq x l).Perm (x :: l) := by
  intro l
  induction l with
  | nil => exact .refl _
  | cons y l ih =>
    rw [insertByFreq]
    split
    · exact .refl _
    · exact (ih.cons y).trans (.swap x y l)

theorem sortByFreq_perm (l : List (Nat × Nat)) : (sortByFreq l).Perm l := by
  unfold sortByFreq
  have : ∀ (l acc : List (Nat × Nat)), (l.foldl (fun acc x => insertByFreq x acc) acc).Perm (l ++ acc) := by
    intro l
    induction l with
    | nil => intro acc; exact .refl _
    | cons x l ih =>
      intro acc
      exact (ih _).trans (((insertByFreq_perm x acc).append_left l).trans List.perm_middle)
  simpa using this l []

theorem initial_inv (freqs : List Nat) (t : Tree) (lengths : Array Nat) (L : Nat) (h1 : 1 ≤ L) (h15 : L ≤ 15)
    (hp : (leaves t).Perm (usedIdx freqs)) (hl : LengthsOf freqs t lengths) (hpos : ∀ p ∈ depths t 0, 1 ≤ p.2) :
    LInv (countLengths lengths L) L (totalOf (countLengths lengths L) L) (usedIdx freqs).length ∧
    cf (countLengths lengths L) L ≤ (usedIdx freqs).length := by
  -- sums of the level function are sums over the leaves
  have key : ∀ w : Nat → Nat, sumW w (cf (countLengths lengths L)) L =
      ((depths t 0).map fun p => w (min p.2 L)).sum := by
    intro w
    rw [(countLengths_spec w lengths L h1 h15).2, sum_over_used freqs t lengths hp hl _ rfl]
    exact congrArg List.sum (List.map_congr_left fun p hpm => if_neg (Nat.ne_of_gt (hpos p hpm)))
  have hT : totalOf (countLengths lengths L) L = sumW (fun k => 2 ^ (L - k)) (cf (countLengths lengths L)) L :=
    congrArg List.sum (List.map_congr_left fun k _ => Nat.shiftLeft_eq _ _)
  have hU : sumW (fun _ => 1) (cf (countLengths lengths L)) L = (usedIdx freqs).length := by
    rw [key, List.map_const', List.sum_replicate_nat, Nat.mul_one, depths_length, hp.length_eq]
  have hC := key fun k => if k = L then 1 else 0
  rw [sumW_last _ L h1] at hC
  obtain ⟨t1, t2, _⟩ := clip_tree L t 0
  rw [← key fun k => 2 ^ (L - k), ← hT, Nat.sub_zero] at t1 t2
  rw [← hC] at t2
  refine ⟨⟨by rw [(countLengths_spec id lengths L h1 h15).1]; exact Nat.lt_succ_of_le h15, hT.symm, hU, t1, t2⟩, ?_⟩
  -- the symbols at level `L` are among all of them
  obtain ⟨L', rfl⟩ := Nat.exists_eq_add_one.mpr h1
  rw [sumW_succ, Nat.mul_one] at hU
  exact hU ▸ Nat.le_add_left _ _

/-- what `build` promises: lengths 0 exactly for the unused symbols and within `1..limit` for the
    used ones, Kraft equality, and the specification's canonical code words, bit-reversed -/
def BuildOk (freqs : List Nat) (limit : Nat) : Prop :=
  ∃ lengths codes, build freqs limit = .built lengths codes ∧ lengths.size = freqs.length ∧
    (∀ i, i < freqs.length → (freqs[i]! = 0 → lengths[i]! = 0) ∧ (freqs[i]! > 0 → 1 ≤ lengths[i]! ∧ lengths[i]! ≤ limit)) ∧
    Prefix.kraft lengths.toList limit = 2 ^ limit ∧
    (∀ i, i < freqs.length → lengths[i]! ≠ 0 →
      some codes[i]! = (Prefix.canonicalCode lengths.toList i).map fun c => Prefix.reverseBits c lengths[i]!)

/-- phase 4 and the closing assert, given what phase 3 returned -/
theorem build_of_lengths (freqs : List Nat) (limit : Nat) (hlim : limit ≤ 16) (h2 : 2 ≤ (usedIdx freqs).length)
    (lengths : Array Nat) (hlimit : limitLengths freqs (treeLengths freqs) limit = some lengths)
    (hsz : lengths.size = freqs.length) (hun : ∀ i, i ∉ usedIdx freqs → lengths[i]! = 0)
    (hused : ∀ i, i ∈ usedIdx freqs → 1 ≤ lengths[i]! ∧ lengths[i]! ≤ limit)
    (hkraft : Prefix.kraft lengths.toList limit = 2 ^ limit) : BuildOk freqs limit := by
  have hall : ∀ x ∈ lengths.toList, x ≤ limit := by
    intro x hx
    rw [toList_range] at hx
    obtain ⟨i, _, rfl⟩ := List.mem_map.mp hx
    by_cases hi : i ∈ usedIdx freqs
    · exact (hused i hi).2
    · rw [hun i hi]; exact Nat.zero_le _
  refine ⟨lengths, (assignCodes lengths limit).1, ?_, hsz, fun i hi => ⟨fun h0 => ?_, fun hpos => ?_⟩, hkraft, fun i hi hne => ?_⟩
  · unfold build
    rw [if_neg (by rw [← used_count]; omega), hlimit]
    simp only
    rw [if_neg (by rw [final_eq_kraft lengths limit hall, hkraft]; simp)]
  · exact hun i (fun hm => by have := ((mem_usedIdx freqs i).mp hm).2; omega)
  · exact hused i ((mem_usedIdx freqs i).mpr ⟨hi, hpos⟩)
  · exact assign_canonical lengths limit hlim hall (by rw [hkraft]) i (by rw [hsz]; exact hi) hne

/-- **`build` without limiting**: when the Huffman tree is no deeper than the limit -/
theorem build_unlimited (freqs : List Nat) (limit : Nat) (hlim : limit ≤ 16) (h2 : 2 ≤ (usedIdx freqs).length)
    (t : Tree) (hperm : (leaves t).Perm (usedIdx freqs)) (hL : LengthsOf freqs t (treeLengths freqs))
    (hmax : (treeLengths freqs).foldl max 0 ≤ limit) : BuildOk freqs limit := by
  have hpos := depths_pos_of_two t (hperm.length_eq ▸ h2)
  have hleaf : ∀ i ∈ usedIdx freqs, ∃ p ∈ depths t 0, (treeLengths freqs)[i]! = p.2 := by
    intro i hi
    have : i ∈ (depths t 0).map Prod.fst := by rw [depths_fst]; exact hperm.mem_iff.mpr hi
    obtain ⟨p, hpm, rfl⟩ := List.mem_map.mp this
    exact ⟨p, hpm, hL.used p hpm⟩
  have hentry : ∀ i, i < freqs.length → (treeLengths freqs)[i]! ≤ limit := by
    intro i hi
    refine Nat.le_trans ?_ hmax
    rw [← Array.foldl_toList]
    refine le_foldl_max _ _ _ ?_
    rw [toList_range]
    exact List.mem_map.mpr ⟨i, List.mem_range.mpr (by rw [hL.size]; exact hi), rfl⟩
  have hdepth : ∀ p ∈ depths t 0, p.2 ≤ limit := by
    intro p hp
    rw [← hL.used p hp]
    have hm : p.1 ∈ usedIdx freqs := hperm.mem_iff.mp (by rw [← depths_fst t 0]; exact List.mem_map_of_mem hp)
    exact hentry _ ((mem_usedIdx freqs p.1).mp hm).1
  refine build_of_lengths freqs limit hlim h2 _ (by unfold limitLengths; simp only; rw [if_neg (by omega)])
    hL.size hL.unused (fun i hi => ?_) ?_
  · obtain ⟨p, hpm, e⟩ := hleaf i hi
    exact ⟨e ▸ hpos p hpm, hentry i ((mem_usedIdx freqs i).mp hi).1⟩
  · rw [kraft_of_lengths freqs t _ limit hperm hL hpos, depths_kraft t 0 limit hdepth]; rfl

/-- **`build` with limiting**: when the Huffman tree is deeper than the limit -/
theorem build_limited (freqs : List Nat) (limit : Nat) (h1 : 1 ≤ limit) (h15 : limit ≤ 15)
    (h2 : 2 ≤ (usedIdx freqs).length)
    (t : Tree) (hperm : (leaves t).Perm (usedIdx freqs)) (hL : LengthsOf freqs t (treeLengths freqs))
    (hspace : freqs.length ≤ 2 ^ limit) (hmax : (treeLengths freqs).foldl max 0 > limit) : BuildOk freqs limit := by
  have hpos := depths_pos_of_two t (hperm.length_eq ▸ h2)
  have husedle : (usedIdx freqs).length ≤ freqs.length := by
    rw [usedIdx_eq]
    exact Nat.le_trans (List.length_filter_le _ _) (Nat.le_of_eq List.length_range)
  obtain ⟨inv0, hCle⟩ := initial_inv freqs t (treeLengths freqs) limit h1 h15 hperm hL hpos
  obtain ⟨c', hloop, inv'⟩ := limitLoop_spec limit (usedIdx freqs).length h1 (Nat.le_trans husedle hspace)
    ((treeLengths freqs).size * 16 + 16) _ _ inv0
    -- the model's fuel suffices: the loop runs `total − 2^limit` times, and that excess is at most the
    -- number of symbols at the limit level (`slack`), hence at most the number of used symbols ≤ size
    (by have := inv0.slack; rw [hL.size]; omega)
  have hsorted := sortByFreq_perm ((List.range freqs.length).zip freqs)
  have hfst : ((sortByFreq ((List.range freqs.length).zip freqs)).map Prod.fst).Perm (List.range freqs.length) := by
    refine (hsorted.map _).trans ?_
    rw [List.map_fst_zip (by simp)]
  have hupfst : ((usedPairs (sortByFreq ((List.range freqs.length).zip freqs))).map Prod.fst).Perm (usedIdx freqs) := by
    rw [usedIdx, filterMap_ite (fun p : Nat × Nat => p.2 > 0) Prod.fst]; exact (hsorted.filter _).map _
  obtain ⟨lengths', r1, r2, r3, r4, r5⟩ := reassign_spec limit h15 (sortByFreq ((List.range freqs.length).zip freqs)) limit c'
    (treeLengths freqs) 0 (hfst.nodup_iff.mpr List.nodup_range)
    (fun p hp => by
      have : p.1 ∈ List.range freqs.length := hfst.mem_iff.mp (List.mem_map_of_mem hp)
      rw [hL.size]; exact List.mem_range.mp this)
    (Nat.le_refl _) inv'.size (fun m h1 h2 => absurd h2 (Nat.not_le_of_lt h1))
    (by rw [inv'.used, ← hupfst.length_eq, List.length_map])
  have hsz : lengths'.size = freqs.length := by rw [r2, hL.size]
  have hunused : ∀ i, i ∉ usedIdx freqs → lengths'[i]! = 0 := fun i hi => by
    rw [r3 i (fun h => hi (hupfst.mem_iff.mp h)), hL.unused i hi]
  have hused : ∀ i, i ∈ usedIdx freqs → 1 ≤ lengths'[i]! ∧ lengths'[i]! ≤ limit := fun i hi => by
    obtain ⟨p, hp, hpi⟩ := List.mem_map.mp (hupfst.mem_iff.mpr hi)
    rw [← hpi]; exact r4 p hp
  refine build_of_lengths freqs limit (Nat.le_succ_of_le h15) h2 lengths'
    (by unfold limitLengths; simp only; rw [if_pos hmax, hloop]; exact r1) hsz hunused hused ?_
  -- the new lengths are the level counts the loop ended with
  rw [kraft_eq_sum, sum_used freqs lengths' hsz hunused _ rfl, ← inv'.tot, ← r5, ← (hupfst.map _).sum_nat, List.map_map]
  exact congrArg List.sum (List.map_congr_left fun p hp => if_neg (Nat.ne_of_gt (r4 p hp).1))

/-- phases 3 and 4 for any tree over the used symbols whose depths the lengths array records -/
theorem build_of_tree (freqs : List Nat) (limit : Nat) (h1 : 1 ≤ limit) (h15 : limit ≤ 15)
    (h2 : 2 ≤ (usedIdx freqs).length) (hspace : freqs.length ≤ 2 ^ limit)
    (t : Tree) (hperm : (leaves t).Perm (usedIdx freqs)) (hL : LengthsOf freqs t (treeLengths freqs)) :
    BuildOk freqs limit := by
  by_cases hmax : (treeLengths freqs).foldl max 0 > limit
  · exact build_limited freqs limit h1 h15 h2 t hperm hL hspace hmax
  · exact build_unlimited freqs limit (by omega) h2 t hperm hL (by omega)

end EncHuff
