import WebpVerif.Lemmas.EncHead
import WebpVerif.Lemmas.LTrans

/-!
The specification's inverse transforms undo the encoder's forward transforms (subtract green; the
predictor scheme "left in row 0, top below, opaque black for the first pixel", signalled as mode 2
for every block).
-/
namespace EncRT
open Enc VP8LP

/-- a pixel `[r, g, b, a]` of bytes -/
def Px (p : List Nat) : Prop := p.getD 0 0 < 256 ∧ p.getD 1 0 < 256 ∧ p.getD 2 0 < 256 ∧ p.getD 3 0 < 256

theorem pack_quad (r g b a : Nat) : pack [r, g, b, a] = VP8L.mk a r g b := rfl

theorem pack_eq (p : List Nat) : pack p = VP8L.mk (p.getD 3 0) (p.getD 0 0) (p.getD 1 0) (p.getD 2 0) := rfl

theorem sub8_lt {a b : Nat} : sub8 a b < 256 := Nat.mod_lt _ (by decide)

theorem sub8_add (p q : Nat) (hp : p < 256) : (sub8 p q + q) % 256 = p := by
  unfold sub8
  rw [← Nat.add_mod_mod, Nat.mod_add_mod, Nat.sub_add_cancel (Nat.le_trans (Nat.le_of_lt (Nat.mod_lt q (by decide))) (Nat.le_add_left ..)),
    Nat.add_mod_right, Nat.mod_eq_of_lt hp]

theorem addPx_mk (a r g b a' r' g' b' : Nat) (ha : a < 256) (hr : r < 256) (hg : g < 256) (hb : b < 256)
    (ha' : a' < 256) (hr' : r' < 256) (hg' : g' < 256) (hb' : b' < 256) :
    VP8L.addPx (VP8L.mk a r g b) (VP8L.mk a' r' g' b') =
      VP8L.mk ((a + a') % 256) ((r + r') % 256) ((g + g') % 256) ((b + b') % 256) := by
  obtain ⟨c0, c1, c2, c3⟩ := LTrProof.ch_mk a r g b ha hr hg hb
  obtain ⟨d0, d1, d2, d3⟩ := LTrProof.ch_mk a' r' g' b' ha' hr' hg' hb'
  simp only [VP8L.addPx, VP8L.perCh, c0, c1, c2, c3, d0, d1, d2, d3]

theorem getD4 (x0 x1 x2 x3 : Nat) : ([x0, x1, x2, x3] : List Nat).getD 0 0 = x0 ∧ ([x0, x1, x2, x3] : List Nat).getD 1 0 = x1 ∧
    ([x0, x1, x2, x3] : List Nat).getD 2 0 = x2 ∧ ([x0, x1, x2, x3] : List Nat).getD 3 0 = x3 := ⟨rfl, rfl, rfl, rfl⟩

theorem subGreen_px (p : List Nat) (h : Px p) : Px (subGreen p) := by
  obtain ⟨h0, h1, h2, h3⟩ := h
  unfold subGreen Px
  simp only [getD4]
  exact ⟨sub8_lt, h1, sub8_lt, h3⟩

theorem invSubGreen_pack (p : List Nat) (h : Px p) : invSubGreenPx (pack (subGreen p)) = pack p := by
  obtain ⟨h0, h1, h2, h3⟩ := h
  obtain ⟨c0, c1, c2, c3⟩ := LTrProof.ch_mk (p.getD 3 0) (sub8 (p.getD 0 0) (p.getD 1 0)) (p.getD 1 0) (sub8 (p.getD 2 0) (p.getD 1 0))
    h3 sub8_lt h1 sub8_lt
  show VP8L.mk _ _ _ _ = _
  rw [show pack (subGreen p) = VP8L.mk (p.getD 3 0) (sub8 (p.getD 0 0) (p.getD 1 0)) (p.getD 1 0) (sub8 (p.getD 2 0) (p.getD 1 0)) from rfl,
    c0, c1, c2, c3, sub8_add _ _ h0, sub8_add _ _ h2]
  rfl

/-- the residual the encoder's predictor writes at index `i` -/
def residAt (w : Nat) (px : Array (List Nat)) (i : Nat) : List Nat :=
  let p := px[i]!
  if i ≥ w then (List.range 4).map fun c => sub8 (p.getD c 0) ((px[i - w]!).getD c 0)
  else if i ≥ 1 then (List.range 4).map fun c => sub8 (p.getD c 0) ((px[i - 1]!).getD c 0)
  else [p.getD 0 0, p.getD 1 0, p.getD 2 0, sub8 (p.getD 3 0) 255]

theorem predictForward_toList (w : Nat) (px : Array (List Nat)) :
    (predictForward w px).toList = (List.range px.size).map (residAt w px) := by
  unfold predictForward
  simp only [Array.toList_map]
  rfl

theorem range4_map (f : Nat → Nat) : (List.range 4).map f = [f 0, f 1, f 2, f 3] := rfl

/-- adding the prediction back, channel by channel -/
theorem addPx_pack (p q : List Nat) (hp : Px p) (hq : Px q) :
    VP8L.addPx (pack [sub8 (p.getD 0 0) (q.getD 0 0), sub8 (p.getD 1 0) (q.getD 1 0), sub8 (p.getD 2 0) (q.getD 2 0), sub8 (p.getD 3 0) (q.getD 3 0)])
      (pack q) = pack p := by
  rw [pack_eq q, pack_quad,
    addPx_mk _ _ _ _ _ _ _ _ sub8_lt sub8_lt sub8_lt sub8_lt hq.2.2.2 hq.1 hq.2.1 hq.2.2.1,
    sub8_add _ _ hp.1, sub8_add _ _ hp.2.1, sub8_add _ _ hp.2.2.1, sub8_add _ _ hp.2.2.2]
  rfl

/-- the first pixel: predicted from opaque black -/
theorem addPx_first (p : List Nat) (hp : Px p) :
    VP8L.addPx (pack [p.getD 0 0, p.getD 1 0, p.getD 2 0, sub8 (p.getD 3 0) 255]) 0xff000000 = pack p := by
  rw [show (0xff000000 : Nat) = VP8L.mk 255 0 0 0 from rfl, pack_quad,
    addPx_mk _ _ _ _ _ _ _ _ sub8_lt hp.1 hp.2.1 hp.2.2.1 (by decide) (by decide) (by decide) (by decide),
    sub8_add _ _ hp.2.2.2, Nat.add_zero, Nat.add_zero, Nat.add_zero, Nat.mod_eq_of_lt hp.1, Nat.mod_eq_of_lt hp.2.1,
    Nat.mod_eq_of_lt hp.2.2.1]
  rfl

/-- the pixels reconstructed before index `i`, newest first -/
def revPacks (px : Array (List Nat)) (i : Nat) : List Nat := ((List.range i).map fun j => pack px[j]!).reverse

theorem revPacks_getD (px : Array (List Nat)) (i k : Nat) (hk : k < i) : (revPacks px i).getD k 0 = pack px[i - 1 - k]! := by
  unfold revPacks
  rw [List.getD_eq_getElem?_getD, List.getElem?_reverse (by simpa using hk), List.getElem?_map, List.length_map, List.length_range,
    List.getElem?_range (Nat.sub_lt_of_lt (Nat.sub_one_lt_of_le (Nat.zero_lt_of_lt hk) (Nat.le_refl i)))]
  rfl

theorem revPacks_succ (px : Array (List Nat)) (i : Nat) : revPacks px (i + 1) = pack px[i]! :: revPacks px i := by
  unfold revPacks
  rw [List.range_succ, List.map_append, List.reverse_append]
  rfl

theorem predData_get (w h idx : Nat) (hidx : idx < VP8L.subSize w 9 * VP8L.subSize h 9) : (predData w h).getD idx 0 = 2 * 2 ^ 8 := by
  unfold predData
  rw [Array.getD_eq_getD_getElem?, List.getElem?_toArray, List.getElem?_replicate, if_pos hidx]
  rfl

theorem le_subSize_mul (n b : Nat) : n ≤ VP8L.subSize n b * 2 ^ b := by
  have hB := Nat.two_pow_pos b
  have := Nat.div_add_mod (n + 2 ^ b - 1) (2 ^ b)
  have := Nat.mod_lt (n + 2 ^ b - 1) hB
  unfold VP8L.subSize
  rw [Nat.mul_comm]
  omega

/-- the block of pixel `(x, y)` is inside the sub-image -/
theorem block_index_lt (b w h x y : Nat) (hx : x < w) (hy : y < h) :
    (y / 2 ^ b) * VP8L.subSize w b + x / 2 ^ b < VP8L.subSize w b * VP8L.subSize h b := by
  have h1 : x / 2 ^ b < VP8L.subSize w b :=
    (Nat.div_lt_iff_lt_mul (Nat.two_pow_pos b)).mpr (Nat.lt_of_lt_of_le hx (le_subSize_mul w b))
  have h2 : y / 2 ^ b < VP8L.subSize h b :=
    (Nat.div_lt_iff_lt_mul (Nat.two_pow_pos b)).mpr (Nat.lt_of_lt_of_le hy (le_subSize_mul h b))
  calc y / 2 ^ b * VP8L.subSize w b + x / 2 ^ b < y / 2 ^ b * VP8L.subSize w b + VP8L.subSize w b := Nat.add_lt_add_left h1 _
    _ = (y / 2 ^ b + 1) * VP8L.subSize w b := (Nat.succ_mul ..).symm
    _ ≤ VP8L.subSize h b * VP8L.subSize w b := Nat.mul_le_mul_right _ h2
    _ = VP8L.subSize w b * VP8L.subSize h b := Nat.mul_comm ..

/-- what the specification predicts for pixel `i` of an encoded frame: the encoder's predictor -/
theorem predAt_enc (w h : Nat) (hw : 0 < w) (px : Array (List Nat)) (hsz : px.size = w * h) (i : Nat) (hi : i < px.size) :
    predAt 9 (predData w h) w i (revPacks px i) =
      if i ≥ w then pack px[i - w]! else if i ≥ 1 then pack px[i - 1]! else 0xff000000 := by
  unfold predAt
  simp only
  by_cases h0 : i = 0
  · subst h0
    rw [if_pos ⟨Nat.zero_mod w, Nat.zero_div w⟩, if_neg (Nat.not_le_of_lt hw), if_neg (by decide)]
  · by_cases hiw : i ≥ w
    · rw [if_pos hiw]
      have hy : i / w ≠ 0 := Nat.ne_of_gt (Nat.div_pos hiw hw)
      rw [if_neg fun hh => hy hh.2, if_neg hy]
      have hT : (revPacks px i).getD (w - 1) 0 = pack px[i - w]! := by
        rw [revPacks_getD px i (w - 1) (Nat.sub_one_lt_of_le hw hiw), Nat.sub_sub, Nat.add_sub_cancel' hw]
      by_cases hx : i % w = 0
      · rw [if_pos hx, hT]
      · rw [if_neg hx]
        have hyh : i / w < h := by
          rw [Nat.div_lt_iff_lt_mul hw, Nat.mul_comm]
          exact hsz ▸ hi
        rw [predData_get w h _ (block_index_lt 9 w h (i % w) (i / w) (Nat.mod_lt _ hw) hyh)]
        -- the green channel of the block's entry `2 * 2 ^ 8` is mode 2: predict from the pixel above
        exact hT
    · rw [if_neg hiw, if_pos (show i ≥ 1 from Nat.pos_of_ne_zero h0)]
      have hy : i / w = 0 := Nat.div_eq_of_lt (Nat.lt_of_not_le hiw)
      have hx : i % w ≠ 0 := by rw [Nat.mod_eq_of_lt (Nat.lt_of_not_le hiw)]; exact h0
      rw [if_neg (show ¬ (i % w = 0 ∧ i / w = 0) from fun hh => hx hh.1), if_pos hy, revPacks_getD px i 0 (Nat.pos_of_ne_zero h0), Nat.sub_zero]

theorem residAt_pack (w h : Nat) (hw : 0 < w) (px : Array (List Nat)) (hsz : px.size = w * h) (hpx : ∀ j, j < px.size → Px px[j]!)
    (i : Nat) (hi : i < px.size) :
    VP8L.addPx (pack (residAt w px i)) (predAt 9 (predData w h) w i (revPacks px i)) = pack px[i]! := by
  rw [predAt_enc w h hw px hsz i hi]
  unfold residAt
  simp only
  by_cases hiw : i ≥ w
  · rw [if_pos hiw, if_pos hiw, range4_map]
    exact addPx_pack _ _ (hpx i hi) (hpx (i - w) (Nat.sub_lt_of_lt hi))
  · rw [if_neg hiw, if_neg hiw]
    by_cases h1 : i ≥ 1
    · rw [if_pos h1, if_pos h1, range4_map]
      exact addPx_pack _ _ (hpx i hi) (hpx (i - 1) (Nat.sub_lt_of_lt hi))
    · rw [if_neg h1, if_neg h1]
      exact addPx_first _ (hpx i hi)

/-- **the specification's inverse predictor transform returns the pixels the encoder predicted from** -/
theorem invPredictor_enc (w h : Nat) (hw : 0 < w) (px : Array (List Nat)) (hsz : px.size = w * h) (hpx : ∀ j, j < px.size → Px px[j]!) :
    ∀ (k i : Nat), i + k = px.size →
      invPredictor 9 (predData w h) w ((List.range' i k).map fun j => pack (residAt w px j)) i (revPacks px i) =
        (List.range px.size).map fun j => pack px[j]! := by
  intro k
  induction k with
  | zero =>
    intro i hi
    simp only [List.range'_zero, List.map_nil, invPredictor]
    unfold revPacks
    rw [List.reverse_reverse, show i = px.size from hi]
  | succ k ih =>
    intro i hi
    rw [List.range'_succ, List.map_cons]
    unfold invPredictor
    rw [residAt_pack w h hw px hsz hpx i (hi ▸ Nat.lt_add_of_pos_right (Nat.succ_pos k)), ← revPacks_succ]
    exact ih (i + 1) (Nat.add_right_comm i 1 k ▸ hi)

end EncRT
