import WebpVerif.Model.Vp8Pred
import WebpVerif.Spec.Vp8PredSpec
import Mathlib.Tactic.IntervalCases

/-!
The model of the intra predictors of vp8.rs (`Vp8Pred`, tied to the real functions on random
workspaces through hook 5cd911b) against the reference predictors transcribed from libwebp's
`dsp/dec.c` (`Vp8PredSpec`): for every neighbourhood and every pixel of the block.
-/
namespace Vp8PredProof
open Vp8Pred

/-- the neighbourhood in the reference's notation -/
def refN (n : Nb) : Vp8PredSpec.N :=
  { X := n.p, A := n.t 0, B := n.t 1, C := n.t 2, D := n.t 3, E := n.t 4, F := n.t 5, G := n.t 6, H := n.t 7,
    I := n.l 0, J := n.l 1, K := n.l 2, L := n.l 3 }

/-- the reference predictor for the hook's numbering of the sub-block modes -/
def ref4 (kind : Nat) (n : Vp8PredSpec.N) (x y : Nat) : Nat :=
  match kind with
  | 0 => Vp8PredSpec.DC4 n x y
  | 2 => Vp8PredSpec.VE4 n x y
  | 3 => Vp8PredSpec.HE4 n x y
  | 4 => Vp8PredSpec.LD4 n x y
  | 5 => Vp8PredSpec.RD4 n x y
  | 6 => Vp8PredSpec.VR4 n x y
  | 7 => Vp8PredSpec.VL4 n x y
  | 8 => Vp8PredSpec.HD4 n x y
  | _ => Vp8PredSpec.HU4 n x y

theorem bdc_ref (n : Nb) (r c : Nat) : bdc n r c = Vp8PredSpec.DC4 (refN n) c r := by
  unfold bdc Vp8PredSpec.DC4 refN
  simp only
  omega

theorem bve_ref (n : Nb) (r c : Nat) (hc : c < 4) : bve n r c = Vp8PredSpec.VE4 (refN n) c r := by
  interval_cases c <;> rfl

theorem bhe_ref (n : Nb) (r c : Nat) (hr : r < 4) : bhe n r c = Vp8PredSpec.HE4 (refN n) c r := by
  interval_cases r <;> rfl

theorem bld_ref (n : Nb) (r c : Nat) (hr : r < 4) (hc : c < 4) : bld n r c = Vp8PredSpec.LD4 (refN n) c r := by
  interval_cases r <;> interval_cases c <;> rfl

theorem avg3_eq_AVG3 (a b c : Nat) : avg3 a b c = Vp8PredSpec.AVG3 c b a := by
  unfold avg3 Vp8PredSpec.AVG3; omega

theorem brd_ref (n : Nb) (r c : Nat) (hr : r < 4) (hc : c < 4) : brd n r c = Vp8PredSpec.RD4 (refN n) c r := by
  interval_cases r <;> interval_cases c <;> exact avg3_eq_AVG3 _ _ _

theorem bvr_ref (n : Nb) (r c : Nat) (hr : r < 4) (hc : c < 4) : bvr n r c = Vp8PredSpec.VR4 (refN n) c r := by
  interval_cases r <;> interval_cases c <;> rfl

theorem bvl_ref (n : Nb) (r c : Nat) (hr : r < 4) (hc : c < 4) : bvl n r c = Vp8PredSpec.VL4 (refN n) c r := by
  interval_cases r <;> interval_cases c <;> rfl

theorem bhd_ref (n : Nb) (r c : Nat) (hr : r < 4) (hc : c < 4) : bhd n r c = Vp8PredSpec.HD4 (refN n) c r := by
  interval_cases r <;> interval_cases c <;> rfl

theorem bhu_ref (n : Nb) (r c : Nat) (hr : r < 4) (hc : c < 4) : bhu n r c = Vp8PredSpec.HU4 (refN n) c r := by
  interval_cases r <;> interval_cases c <;> rfl

theorem block4_ref (kind : Nat) (hk : kind = 0 ∨ (2 ≤ kind ∧ kind ≤ 9)) (n : Nb) (r c : Nat) (hr : r < 4) (hc : c < 4) :
    block4 kind n r c = ref4 kind (refN n) c r := by
  rcases hk with rfl | ⟨h2, h9⟩
  · exact bdc_ref n r c
  · interval_cases kind
    · exact bve_ref n r c hc
    · exact bhe_ref n r c hr
    · exact bld_ref n r c hr hc
    · exact brd_ref n r c hr hc
    · exact bvr_ref n r c hr hc
    · exact bvl_ref n r c hr hc
    · exact bhd_ref n r c hr hc
    · exact bhu_ref n r c hr hc

theorem getElem!_map_range (f : Nat → Nat) {n i : Nat} (hi : i < n) : ((List.range n).map f).toArray[i]! = f i := by
  rw [getElem!_pos _ _ (by rw [List.size_toArray, List.length_map, List.length_range]; exact hi), List.getElem_toArray,
    List.getElem_map, List.getElem_range]

theorem predict_size (kind : Nat) (a : Array Nat) (size x0 y0 stride : Nat) (above left : Bool) :
    (predict kind a size x0 y0 stride above left).size = a.size := by
  unfold predict; rw [List.size_toArray, List.length_map, List.length_range]

theorem block_index (a : Array Nat) (x0 y0 stride n r c : Nat) (hs : x0 + n ≤ stride) (hsz : (y0 + n) * stride ≤ a.size)
    (hr : r < n) (hc : c < n) :
    ((y0 + r) * stride + x0 + c) / stride = y0 + r ∧ ((y0 + r) * stride + x0 + c) % stride = x0 + c ∧
      (y0 + r) * stride + x0 + c < a.size ∧ (y0 + r + 1) * stride ≤ a.size := by
  have hlt : x0 + c < stride := by omega
  have h1 : (y0 + r + 1) * stride ≤ a.size := Nat.le_trans (Nat.mul_le_mul_right _ (by omega)) hsz
  rw [Nat.add_assoc, Nat.mul_comm, Nat.mul_add_div (by omega), Nat.mul_add_mod, Nat.div_eq_of_lt hlt, Nat.mod_eq_of_lt hlt,
    Nat.mul_comm]
  refine ⟨rfl, rfl, ?_, h1⟩
  rw [Nat.succ_mul] at h1
  omega

theorem predict_subblock (kind : Nat) (hk : kind = 0 ∨ (2 ≤ kind ∧ kind ≤ 9)) (a : Array Nat) (size x0 y0 stride : Nat) (ab lf : Bool)
    (hs : x0 + 4 ≤ stride) (hsz : (y0 + 4) * stride ≤ a.size) (r c : Nat) (hr : r < 4) (hc : c < 4) :
    (predict kind a size x0 y0 stride ab lf)[(y0 + r) * stride + x0 + c]! = ref4 kind (refN (nbOf a x0 y0 stride)) c r := by
  obtain ⟨hd, hm, hi, _⟩ := block_index a x0 y0 stride 4 r c hs hsz hr hc
  unfold predict
  rw [getElem!_map_range _ hi]
  simp only [hd, hm]
  rw [if_neg (by omega), if_neg (by omega), if_neg (by omega), if_neg (by omega),
    if_pos ⟨Nat.le_add_right _ _, Nat.add_lt_add_left hr _, Nat.le_add_right _ _, Nat.add_lt_add_left hc _⟩,
    Nat.add_sub_cancel_left, Nat.add_sub_cancel_left]
  exact block4_ref kind hk _ r c hr hc

/-- clamping to `0..M` by `max`, `min` and `toNat`, as the reference's case distinction (for any
    `M`: 255 for pixels here and in Vp8Intra, 127 for the quantiser indices in C02) -/
theorem toNat_clamp (v : Int) (M : Nat) :
    (min (max v 0) (M : Int)).toNat = if v < 0 then 0 else if v > M then M else v.toNat := by
  by_cases h0 : v < 0
  · rw [if_pos h0, Int.max_eq_right (Int.le_of_lt h0), Int.min_eq_left (Int.natCast_nonneg M)]; rfl
  · rw [if_neg h0, Int.max_eq_left (Int.not_lt.mp h0)]
    by_cases h1 : v > M
    · rw [if_pos h1, Int.min_eq_right (Int.le_of_lt h1), Int.toNat_natCast]
    · rw [if_neg h1, Int.min_eq_left (Int.not_lt.mp h1)]

theorem tmVal_clip (l t p : Nat) : tmVal l t p = Vp8PredSpec.clip1 ((t : Int) + l - p) := by
  unfold tmVal
  rw [show (l : Int) - p + t = t + l - p by omega]
  exact toNat_clamp _ 255

/-- **TrueMotion of any size** (4x4 sub-blocks, 8x8 chroma, 16x16 luma) -/
theorem predict_tm (a : Array Nat) (size x0 y0 stride : Nat) (ab lf : Bool)
    (hs : x0 + size ≤ stride) (hsz : (y0 + size) * stride ≤ a.size) (r c : Nat) (hr : r < size) (hc : c < size) :
    (predict 1 a size x0 y0 stride ab lf)[(y0 + r) * stride + x0 + c]! =
      Vp8PredSpec.TM a[(y0 - 1) * stride + x0 - 1]! (fun x => a[(y0 - 1) * stride + x0 + x]!)
        (fun y => a[(y0 + y) * stride + x0 - 1]!) c r := by
  obtain ⟨hd, hm, hi, _⟩ := block_index a x0 y0 stride size r c hs hsz hr hc
  unfold predict
  rw [getElem!_map_range _ hi]
  simp only [hd, hm, reduceIte]
  rw [if_pos ⟨Nat.le_add_right _ _, Nat.add_lt_add_left hr _, Nat.le_add_right _ _, Nat.add_lt_add_left hc _⟩,
    tmVal_clip, ← Nat.add_assoc]
  rfl

/-- **vertical prediction** as the decoder calls it (`x0 = y0 = 1`): the row above, copied down -/
theorem predict_v (a : Array Nat) (size stride : Nat) (ab lf : Bool)
    (hs : 1 + size ≤ stride) (hsz : (1 + size) * stride ≤ a.size) (r c : Nat) (hr : r < size) (hc : c < size) :
    (predict 10 a size 1 1 stride ab lf)[(1 + r) * stride + 1 + c]! = a[1 + c]! := by
  obtain ⟨hd, hm, hi, hrow⟩ := block_index a 1 1 stride size r c hs hsz hr hc
  unfold predict
  rw [getElem!_map_range _ hi]
  simp only [hd, hm, reduceIte, Nat.reduceEqDiff]
  rw [if_pos ⟨Nat.le_add_right _ _, Nat.add_lt_add_left hr _, hrow, Nat.le_add_right _ _, by omega⟩, Nat.add_sub_cancel_left]

/-- **horizontal prediction**: the pixel to the left of the row -/
theorem predict_h (a : Array Nat) (size stride : Nat) (ab lf : Bool)
    (hs : 1 + size ≤ stride) (hsz : (1 + size) * stride ≤ a.size) (r c : Nat) (hr : r < size) (hc : c < size) :
    (predict 11 a size 1 1 stride ab lf)[(1 + r) * stride + 1 + c]! = a[(1 + r) * stride]! := by
  obtain ⟨hd, hm, hi, hrow⟩ := block_index a 1 1 stride size r c hs hsz hr hc
  unfold predict
  rw [getElem!_map_range _ hi]
  simp only [hd, hm, reduceIte, Nat.reduceEqDiff]
  rw [if_pos ⟨Nat.le_add_right _ _, Nat.add_lt_add_left hr _, hrow, Nat.le_add_right _ _⟩]
  rfl

theorem sum_range_le (f : Nat → Nat) (B : Nat) (h : ∀ k, f k ≤ B) : ∀ n, ((List.range n).map f).sum ≤ n * B := by
  intro n
  induction n with
  | zero => rw [Nat.zero_mul]; exact Nat.le_refl 0
  | succ n ih =>
    rw [List.range_succ, List.map_append, List.sum_append, List.map_singleton, List.sum_singleton, Nat.succ_mul]
    exact Nat.add_le_add ih (h n)

/-- a quotient that fits a byte is not changed by the `u8` cast -/
theorem div_byte {x y d : Nat} (hxy : x = y) (h : y < d * 256) : x / d % 256 = y / d :=
  hxy ▸ Nat.mod_eq_of_lt (Nat.div_lt_of_lt_mul (hxy ▸ h))

theorem dcVal_ref (a : Array Nat) (hbytes : ∀ i : Nat, a[i]! < 256) (size : Nat) (h816 : size = 8 ∨ size = 16) (stride : Nat)
    (ab lf : Bool) :
    dcVal a size stride ab lf = Vp8PredSpec.DC size (fun x => a[1 + x]!) (fun y => a[(y + 1) * stride]!) ab lf := by
  unfold dcVal Vp8PredSpec.DC
  have hA := sum_range_le (fun x => a[1 + x]!) 255 (fun k => Nat.le_of_lt_succ (hbytes (1 + k))) size
  have hL := sum_range_le (fun y => a[(y + 1) * stride]!) 255 (fun k => Nat.le_of_lt_succ (hbytes ((k + 1) * stride))) size
  generalize ((List.range size).map fun x => a[1 + x]!).sum = sA at hA ⊢
  generalize ((List.range size).map fun y => a[(y + 1) * stride]!).sum = sL at hL ⊢
  rcases h816 with rfl | rfl <;> cases ab <;> cases lf <;> dsimp <;> exact div_byte (by omega) (by omega)

/-- for any `x0 y0`: the DC branch of `predict` does not read them, it fills the block at row 1,
    column 1 -/
theorem predict_dc (kind : Nat) (hk : kind ≥ 12) (a : Array Nat) (size x0 y0 stride : Nat) (ab lf : Bool)
    (hs : 1 + size ≤ stride) (hsz : (1 + size) * stride ≤ a.size) (r c : Nat) (hr : r < size) (hc : c < size) :
    (predict kind a size x0 y0 stride ab lf)[(1 + r) * stride + 1 + c]! = dcVal a size stride ab lf := by
  obtain ⟨hd, hm, hi, _⟩ := block_index a 1 1 stride size r c hs hsz hr hc
  unfold predict
  rw [getElem!_map_range _ hi]
  simp only [hd, hm]
  rw [if_neg (by omega), if_neg (by omega), if_neg (by omega), if_pos hk,
    if_pos ⟨Nat.le_add_right _ _, Nat.add_lt_add_left hr _, Nat.le_add_right _ _, Nat.add_lt_add_left hc _⟩]

end Vp8PredProof
