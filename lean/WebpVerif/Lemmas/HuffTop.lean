import WebpVerif.Lemmas.HuffTotal

/-!
`HuffmanTree` against the specification, assembled: whenever `build_implicit` (model) accepts a
length vector, the vector is a valid code of the specification and `read_symbol` (model) returns
exactly what the specification's canonical symbol decoder returns.
-/
namespace Huff
open Prefix

/-- a length vector (lengths ≤ 15, at most 5000 symbols) that `build_implicit` accepts with a
    table: on every bit string `read_symbol` returns the symbol, and leaves the rest, that the
    specification's decoder returns -/
theorem build_ok_spec_all (ls : List Nat) (hall : ∀ l ∈ ls, l ≤ 15) (hn : ls.length ≤ 5000) (t : HT) (ht : build ls = .ok t) :
    ∀ bits : List Nat, (∀ b ∈ bits, b < 2) → readSym (build ls) bits = decodeSymbol ls bits := by
  obtain ⟨hgood, hnum, L, hL1, hL15, hmax, hend⟩ := build_good ls hall hn t ht
  intro bits hb
  rw [ht]
  unfold decodeSymbol
  rw [if_neg (by omega)]
  exact readSym_good_all t ls hgood hall L hL1 hL15 hend bits hb

/-- such a vector is a valid code of the specification with two or more used symbols -/
theorem build_ok_valid (ls : List Nat) (hall : ∀ l ∈ ls, l ≤ 15) (hn : ls.length ≤ 5000) (t : HT) (ht : build ls = .ok t) :
    validLengths ls = true := by
  obtain ⟨_, hnum, L, _, hL15, hmax, hend⟩ := build_good ls hall hn t ht
  have hkraft := EncHuff.kraft_complete_above ls L 15 hmax hL15 (by rw [EncHuff.kraft_eq_blockEnd ls L hmax, hend])
  unfold validLengths
  have h1 : ls.all (· ≤ 15) = true := by rw [List.all_eq_true]; intro l hl; simpa using hall l hl
  have h2 : ((ls.filter (· ≠ 0)).length == 1) = false := by
    rw [beq_eq_false_iff_ne]; omega
  rw [h1, h2, hkraft]
  have h3 : decide ((ls.filter (· ≠ 0)).length ≥ 2) = true := decide_eq_true hnum
  rw [h3]
  rfl

/-- a vector that `build_implicit` accepts as a single node has exactly one used symbol: it is valid,
    and no bits are read -/
theorem build_single_spec (ls : List Nat) (hall : ∀ l ∈ ls, l ≤ 15) (s : Nat) (hs : build ls = .single s) :
    validLengths ls = true ∧ ∀ bits : List Nat, readSym (build ls) bits = decodeSymbol ls bits := by
  have hnum : (ls.filter (· ≠ 0)).length = 1 ∧ s = ls.findIdx (· ≠ 0) := by
    unfold build at hs
    simp only at hs
    by_cases h0 : (ls.filter (· ≠ 0)).length = 0
    · rw [if_pos h0] at hs; cases hs
    · rw [if_neg h0] at hs
      by_cases h1 : (ls.filter (· ≠ 0)).length = 1
      · rw [if_pos h1] at hs
        injection hs with hs
        exact ⟨h1, hs.symm⟩
      · rw [if_neg h1] at hs
        split at hs
        · cases hs
        · split at hs <;> cases hs
  constructor
  · unfold validLengths
    have h1 : ls.all (· ≤ 15) = true := by rw [List.all_eq_true]; intro l hl; simpa using hall l hl
    rw [h1, hnum.1]
    rfl
  · intro bits
    rw [hs]
    unfold decodeSymbol readSym
    rw [if_pos hnum.1, hnum.2]

end Huff
