import WebpVerif.Lemmas.EncFields
import WebpVerif.Lemmas.EncLen
import WebpVerif.Model.LosslessKernels
import WebpVerif.Spec.LosslessP

/-!
The specification's pixel loop (`VP8LP.loop`) run on the bits the encoder writes for its tokens
returns the token expansion.
-/
namespace EncRT
open Enc EncTree Prefix VP8LP

theorem runSymbol_lt (run : Nat) (h : run ≤ 4096) : runSymbol run < 280 := by
  unfold runSymbol
  split
  · omega
  · have := (EncLen.length_symbol_inv run (by omega) (by omega)).1
    omega

theorem lsbBits_or_shift (a b n m : Nat) (ha : a < 2 ^ n) :
    lsbBits (a ||| (b <<< n)) (n + m) = lsbBits a n ++ lsbBits b m := by
  rw [BitWriterProof.or_shift_eq b ha, lsbBits_add_mul a b n m ha]

theorem or_shift_lt {a b n m : Nat} (ha : a < 2 ^ n) (hb : b < 2 ^ m) : a ||| (b <<< n) < 2 ^ (n + m) := by
  rw [BitWriterProof.or_shift_eq b ha]
  exact BitWriterProof.add_mul_lt ha hb

/-- the four pixel codes as the decoder reads them -/
structure Lens where
  n0 : List Nat
  n1 : List Nat
  n2 : List Nat
  n3 : List Nat

/-- what the round trip needs to know about one token -/
structure TokOK (color : Nat) (tb : Tabs) (ls : Lens) (t : List Nat × Nat) : Prop where
  g : SymOK tb.l1 tb.c1 ls.n1 (t.1.getD 1 0)
  r : SymOK tb.l0 tb.c0 ls.n0 (t.1.getD 0 0)
  b : SymOK tb.l2 tb.c2 ls.n2 (t.1.getD 2 0)
  a : SymOK tb.l3 tb.c3 ls.n3 (t.1.getD 3 0)
  run : t.2 > 0 → SymOK tb.l1 tb.c1 ls.n1 (runSymbol t.2)
  grey : color < 2 → tb.l0[t.1.getD 0 0]! = 0 ∧ tb.c0[t.1.getD 0 0]! = 0 ∧ tb.l2[t.1.getD 2 0]! = 0 ∧ tb.c2[t.1.getD 2 0]! = 0
  opq : color = 0 ∨ color = 2 → tb.l3[t.1.getD 3 0]! = 0 ∧ tb.c3[t.1.getD 3 0]! = 0
  g256 : t.1.getD 1 0 < 256
  r4096 : t.2 ≤ 4096

/-- the bits of a literal: green, red, blue, alpha code words -/
def litBits (tb : Tabs) (p : List Nat) : List Nat :=
  lsbBits tb.c1[p.getD 1 0]! tb.l1[p.getD 1 0]! ++ (lsbBits tb.c0[p.getD 0 0]! tb.l0[p.getD 0 0]! ++
    (lsbBits tb.c2[p.getD 2 0]! tb.l2[p.getD 2 0]! ++ lsbBits tb.c3[p.getD 3 0]! tb.l3[p.getD 3 0]!))

/-- whatever the colour type, the packed literal is the four-channel one: a channel that is not
    coded has the code word 0 of length 0 -/
theorem litField_eq (color : Nat) (hc : color ≤ 3) (tb : Tabs) (ls : Lens) (t : List Nat × Nat) (h : TokOK color tb ls t) :
    litField color tb t.1 = litField 3 tb t.1 := by
  obtain rfl | rfl | rfl | rfl : color = 0 ∨ color = 1 ∨ color = 2 ∨ color = 3 := by omega
  · obtain ⟨e1, e2, e3, e4⟩ := h.grey (by decide)
    obtain ⟨e5, e6⟩ := h.opq (Or.inl rfl)
    simp only [litField, e1, e2, e3, e4, e5, e6, Nat.zero_shiftLeft, Nat.or_zero, Nat.add_zero]
  · obtain ⟨e1, e2, e3, e4⟩ := h.grey (by decide)
    simp only [litField, e1, e2, e3, e4, Nat.zero_shiftLeft, Nat.or_zero, Nat.add_zero]
  · obtain ⟨e5, e6⟩ := h.opq (Or.inr rfl)
    simp only [litField, e5, e6, Nat.zero_shiftLeft, Nat.or_zero, Nat.add_zero]
  · rfl

theorem litField_spec (color : Nat) (hc : color ≤ 3) (tb : Tabs) (ls : Lens) (t : List Nat × Nat) (h : TokOK color tb ls t) :
    (litField color tb t.1).1 < 2 ^ (litField color tb t.1).2 ∧ (litField color tb t.1).2 ≤ 60 ∧
    lsbBits (litField color tb t.1).1 (litField color tb t.1).2 = litBits tb t.1 := by
  rw [litField_eq color hc tb ls t h]
  have h1 := or_shift_lt h.g.1 h.r.1
  have h2 := or_shift_lt h1 h.b.1
  refine ⟨or_shift_lt h2 h.a.1, ?_, ?_⟩
  · have := h.g.2.1; have := h.r.2.1; have := h.b.2.1; have := h.a.2.1
    show _ + _ + _ + _ ≤ 60
    omega
  · simp only [litField, litBits]
    rw [lsbBits_or_shift _ _ _ _ h2, lsbBits_or_shift _ _ _ _ h1, lsbBits_or_shift _ _ _ _ h.g.1]
    simp only [List.append_assoc]

/-- a residual pixel `[r, g, b, a]` as the ARGB number the decoder assembles -/
def pack (p : List Nat) : Nat := p.getD 3 0 * 2 ^ 24 + p.getD 0 0 * 2 ^ 16 + p.getD 1 0 * 2 ^ 8 + p.getD 2 0

/-- the pixel sequence a token list stands for -/
def expandToks : List (List Nat × Nat) → List (List Nat)
  | [] => []
  | (p, run) :: rest => p :: (List.replicate run p ++ expandToks rest)

/-- the entropy-coded image the encoder produces, as the decoder sees it: one group, no colour
    cache, no meta prefix image, distance code = the single symbol 1 -/
def encImg (w n : Nat) (ls : Lens) : Img :=
  { xsize := w, n := n, cacheBits := 0, prefixBits := 0, entropy := #[],
    groups := #[#[specDec ls.n1, specDec ls.n0, specDec ls.n2, specDec ls.n3, specDec (oneHot 40 1)]] }

theorem group_enc (w n : Nat) (ls : Lens) (i : Nat) :
    (encImg w n ls).group i = #[specDec ls.n1, specDec ls.n0, specDec ls.n2, specDec ls.n3, specDec (oneHot 40 1)] := rfl

theorem gd0 (a b c d e : Dec) : (#[a, b, c, d, e] : Array Dec).getD 0 noDec = a := rfl
theorem gd1 (a b c d e : Dec) : (#[a, b, c, d, e] : Array Dec).getD 1 noDec = b := rfl
theorem gd2 (a b c d e : Dec) : (#[a, b, c, d, e] : Array Dec).getD 2 noDec = c := rfl
theorem gd3 (a b c d e : Dec) : (#[a, b, c, d, e] : Array Dec).getD 3 noDec = d := rfl
theorem gd4 (a b c d e : Dec) : (#[a, b, c, d, e] : Array Dec).getD 4 noDec = e := rfl

theorem stepG_lit {g : Array Dec} {xs n i : Nat} {rev : List Nat} {cache : Array Nat} {b0 b1 b2 b3 b4 : List Nat} {s r bl a : Nat}
    (hs : s < 256) (h0 : g.getD 0 noDec b0 = some (s, b1)) (h1 : g.getD 1 noDec b1 = some (r, b2))
    (h2 : g.getD 2 noDec b2 = some (bl, b3)) (h3 : g.getD 3 noDec b3 = some (a, b4)) :
    stepG g xs n 0 i rev cache b0 = some (i + 1, (a * 2 ^ 24 + r * 2 ^ 16 + s * 2 ^ 8 + bl) :: rev, cache, b4) := by
  unfold stepG
  simp only [h0, hs, if_true, h1, h2, h3, cacheInsert]

theorem step_lit (w n : Nat) (ls : Lens) (color : Nat) (tb : Tabs) (t : List Nat × Nat) (h : TokOK color tb ls t)
    (i : Nat) (rev : List Nat) (cache : Array Nat) (rest : List Nat) :
    step (encImg w n ls) i rev cache (litBits tb t.1 ++ rest) = some (i + 1, pack t.1 :: rev, cache, rest) := by
  unfold litBits
  simp only [List.append_assoc]
  exact stepG_lit h.g256 (h.g.2.2 _) (h.r.2.2 _) (h.b.2.2 _) (h.a.2.2 _)

/-- the prefix value 2 that the encoder's single distance symbol decodes to means one pixel to the
    left, whatever the width -/
theorem distanceOf_two (w : Nat) : VP8L.distanceOf w 2 = 1 := by
  unfold VP8L.distanceOf
  have e : Gen.Libwebp.kCodeToPlane[1]?.getD 0 = 7 := by decide
  simp [e]

theorem copyBack_one (p : Nat) : ∀ (len : Nat) (rev : List Nat) (cache : Array Nat),
    copyBack 0 1 len (p :: rev) cache = (List.replicate len p ++ p :: rev, cache) := by
  intro len
  induction len with
  | zero => intro rev cache; rfl
  | succ len ih =>
    intro rev cache
    unfold copyBack
    have e : (p :: rev).getD (1 - 1) 0 = p := rfl
    simp only [e, cacheInsert, if_true]
    rw [ih]
    congr 1
    rw [List.replicate_succ', List.append_assoc]
    rfl

theorem prefixValue_run (run : Nat) (h0 : 0 < run) (h : run ≤ 4096) (rest : List Nat) :
    prefixValue (runSymbol run - 256)
      (fieldBits (if run ≤ 4 then [] else [((run - 1) % 2 ^ (lengthToSymbol run).2, (lengthToSymbol run).2)]) ++ rest) =
      some (run, rest) := by
  unfold prefixValue runSymbol
  by_cases h4 : run ≤ 4
  · rw [if_pos h4, if_pos h4, if_pos (by omega)]
    congr 2
    omega
  · obtain ⟨_, s4, sx, sv⟩ := EncLen.length_symbol_inv run (by omega) (by omega)
    unfold LK.copyExtraBits at sx
    unfold LK.copyValue at sv
    rw [if_neg (by omega)] at sx sv
    rw [sx] at sv
    rw [if_neg h4, if_neg h4, Nat.add_sub_cancel_left, if_neg (by omega), fieldBits_cons, fieldBits_nil, List.append_nil, sx,
      readBitsL_field _ _ _ (Nat.mod_lt _ (Nat.two_pow_pos _))]
    simp only
    rw [sv]

/-- the run part of a token: a backward reference of that length with distance 1 -/
theorem step_run (w n : Nat) (ls : Lens) (color : Nat) (tb : Tabs) (t : List Nat × Nat) (h : TokOK color tb ls t)
    (hrun : t.2 > 0) (i : Nat) (hi : 1 ≤ i) (hn : i + t.2 ≤ n) (p : Nat) (rev : List Nat) (cache : Array Nat) (rest : List Nat) :
    step (encImg w n ls) i (p :: rev) cache (fieldBits (runFields tb t.2) ++ rest) =
      some (i + t.2, List.replicate t.2 p ++ p :: rev, cache, rest) := by
  have hsym : ¬ runSymbol t.2 < 256 ∧ runSymbol t.2 < 256 + 24 :=
    ⟨by unfold runSymbol; split <;> omega, runSymbol_lt t.2 h.r4096⟩
  unfold step stepG runFields
  simp only [group_enc, gd0, gd4, specDec]
  rw [if_neg (by omega), fieldBits_cons, List.append_assoc, (h.run hrun).2.2]
  simp only [hsym.1, hsym.2, if_true, if_false]
  rw [prefixValue_run t.2 hrun h.r4096]
  simp only
  rw [decodeSymbol_oneHot 40 1 (by decide)]
  simp only
  rw [show prefixValue 1 rest = some (2, rest) from rfl]
  simp only [distanceOf_two]
  rw [if_neg (by simp only [encImg]; omega), show (encImg w n ls).cacheBits = 0 from rfl, copyBack_one]

theorem loop_done (c : Img) (fuel : Nat) (rev : List Nat) (cache : Array Nat) (bits : List Nat) :
    loop c fuel c.n rev cache bits = some (rev, bits) := by
  unfold loop
  rw [if_pos (Nat.le_refl _), if_pos rfl]

/-- one turn of the pixel loop that produces pixels: if the loop finishes from where the turn
    leads, with fuel for the pixels then missing, it does so from here -/
theorem loop_step {c : Img} {i i' : Nat} {rev rev' : List Nat} {cache cache' : Array Nat} {bits bits' : List Nat}
    {r : List Nat × List Nat} (hs : step c i rev cache bits = some (i', rev', cache', bits')) (hi : i < c.n) (hadv : i < i')
    (h : ∀ fuel, c.n - i' ≤ fuel → loop c fuel i' rev' cache' bits' = some r) :
    ∀ fuel, c.n - i ≤ fuel → loop c fuel i rev cache bits = some r := by
  intro fuel hf
  cases fuel with
  | zero => exact absurd hf (Nat.not_le_of_lt (Nat.sub_pos_of_lt hi))
  | succ f =>
    rw [loop, if_neg (Nat.not_le_of_lt hi), hs]
    exact h f (by omega)

theorem loop_tokens (w n : Nat) (ls : Lens) (color : Nat) (hc : color ≤ 3) (tb : Tabs) : ∀ (toks : List (List Nat × Nat)) (i : Nat)
    (rev : List Nat) (rest : List Nat), (∀ t ∈ toks, TokOK color tb ls t) → i + (expandToks toks).length = n →
    ∀ fuel, n - i ≤ fuel →
    loop (encImg w n ls) fuel i rev #[] (fieldBits (toks.flatMap (tokFields color tb)) ++ rest) =
      some (((expandToks toks).map pack).reverse ++ rev, rest) := by
  intro toks
  induction toks with
  | nil =>
    intro i rev rest _ hlen fuel _
    rw [← show (encImg w n ls).n = i from hlen.symm]
    exact loop_done _ _ _ _ _
  | cons t toks ih =>
    intro i rev rest hok hlen
    obtain ⟨p, run⟩ := t
    have htok := hok (p, run) List.mem_cons_self
    have hoks : ∀ t ∈ toks, TokOK color tb ls t := fun t' ht' => hok t' (List.mem_cons_of_mem _ ht')
    simp only [expandToks, List.length_cons, List.length_append, List.length_replicate] at hlen
    rw [List.flatMap_cons, fieldBits_append, tokFields, fieldBits_cons, (litField_spec color hc tb ls _ htok).2.2]
    simp only [expandToks, List.map_cons, List.map_append, List.map_replicate, List.reverse_cons, List.reverse_append,
      List.reverse_replicate, List.append_assoc, List.singleton_append]
    refine loop_step (step_lit w n ls color tb (p, run) htok ..) (show i < n by omega) (Nat.lt_succ_self i) ?_
    by_cases hr : run = 0
    · subst hr
      exact ih (i + 1) _ rest hoks (by omega)
    · exact loop_step (step_run w n ls color tb (p, run) htok (Nat.pos_of_ne_zero hr) (i + 1) (Nat.le_add_left 1 i)
          (show i + 1 + run ≤ n by omega) ..) (show i + 1 < n by omega) (show i + 1 < i + 1 + run by omega)
        (ih (i + 1 + run) _ rest hoks (by omega))

end EncRT
