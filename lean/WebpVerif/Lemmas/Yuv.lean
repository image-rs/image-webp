import WebpVerif.Model.Yuv
import WebpVerif.Spec.Yuv

/-! The YUV to RGB writers of vp8.rs. The colour kernels are libwebp's (`r_eq`, `g_eq`, `b_eq`).
Both row writers fit one description (`RowWriter`), from which pixel (x, y) of a written frame is
the kernel of luma (x, y) and chroma (x/2, y/2), for every width and height (`RowWriter.frame_get`). -/

namespace Yuv

theorem clip_eq (v : Int) : (clip v : Int) = YuvSpec.clip8 v := by
  unfold clip YuvSpec.clip8
  have hmask : YuvSpec.yuvMask2 = 16383 := rfl
  have hfix : ((2 ^ Gen.Libwebp.YUV_FIX2 : Nat) : Int) = 64 := rfl
  rw [Int.shiftRight_eq_div_pow, hmask, hfix]
  omega

theorem mulhi_eq (v c : Nat) : mulhi v c = YuvSpec.multHi v c := by
  unfold mulhi YuvSpec.multHi
  rw [Nat.shiftRight_eq_div_pow, Int.natCast_ediv]
  rfl

theorem r_eq (y v : Nat) : (r y v : Int) = YuvSpec.toR y v := by
  unfold r YuvSpec.toR
  rw [clip_eq, mulhi_eq, mulhi_eq]
  rfl

theorem g_eq (y u v : Nat) : (g y u v : Int) = YuvSpec.toG y u v := by
  unfold g YuvSpec.toG
  rw [clip_eq, mulhi_eq, mulhi_eq, mulhi_eq]
  rfl

theorem b_eq (y u : Nat) : (b y u : Int) = YuvSpec.toB y u := by
  unfold b YuvSpec.toB
  rw [clip_eq, mulhi_eq, mulhi_eq]
  rfl

/-- What both row writers do to one pixel: write the three colours, keep what follows. -/
def px (y u v : Nat) (old : List Nat) : List Nat := r y v :: g y u v :: b y u :: old.drop 3

theorem px_length (y u v : Nat) {old : List Nat} {n : Nat} (h : old.length = n) (hn : 3 ≤ n) :
    (px y u v old).length = n := by
  simp only [px, List.length_cons, List.length_drop]; omega

theorem px_get (y u v : Nat) (old : List Nat) (c : Nat) :
    (px y u v old)[c]? = if c < 3 then some (rgb c y u v) else old[c]? :=
  match c with
  | 0 | 1 | 2 => by simp [px, rgb]
  | c + 3 => by
    show (old.drop 3)[c]? = _
    rw [if_neg (by omega), List.getElem?_drop, Nat.add_comm]

/-- Both row writers: two pixels of `bpp` bytes per chroma sample, then the odd tail (the model's
    patterns need the bytes to be there). -/
structure RowWriter (bpp : Nat) (row : List Nat → List Nat → List Nat → List Nat → List Nat) :
    Prop where
  bpp_ge : 3 ≤ bpp
  length : ∀ ys us vs out, (row ys us vs out).length = out.length
  pair : ∀ y0 y1 ys u us v vs out, 2 * bpp ≤ out.length →
    row (y0 :: y1 :: ys) (u :: us) (v :: vs) out =
      px y0 u v (out.take bpp) ++
        (px y1 u v ((out.drop bpp).take bpp) ++ row ys us vs (out.drop (2 * bpp)))
  single : ∀ y u us v vs out, 3 ≤ out.length → row [y] (u :: us) (v :: vs) out = px y u v out

theorem getElem?_chunk_append {A R : List Nat} {n : Nat} (hA : A.length = n) (x c : Nat) :
    (A ++ R)[n * (x + 1) + c]? = R[n * x + c]? := by
  rw [List.getElem?_append_right (by rw [hA, Nat.mul_succ]; omega), hA, Nat.mul_succ]
  congr 1; omega

theorem RowWriter.get {bpp : Nat} {row} (hw : RowWriter bpp row) (ys us vs out : List Nat)
    (hlen : out.length = bpp * ys.length)
    (hu : (ys.length + 1) / 2 ≤ us.length) (hv : (ys.length + 1) / 2 ≤ vs.length)
    (x c : Nat) (hx : x < ys.length) (hc : c < bpp) :
    (row ys us vs out)[bpp * x + c]? =
      if c < 3 then some (rgb c (ys.getD x 0) (us.getD (x / 2) 0) (vs.getD (x / 2) 0))
      else out[bpp * x + c]? := by
  have hb := hw.bpp_ge
  have hpos : 0 < (ys.length + 1) / 2 :=
    Nat.div_pos (Nat.succ_le_succ (Nat.zero_lt_of_lt hx)) Nat.two_pos
  obtain ⟨u, us, rfl⟩ := List.exists_cons_of_length_pos (Nat.lt_of_lt_of_le hpos hu)
  obtain ⟨v, vs, rfl⟩ := List.exists_cons_of_length_pos (Nat.lt_of_lt_of_le hpos hv)
  match ys, hlen, hu, hv, x, hx with
  | [y], hlen, _, _, 0, _ =>
    rw [hw.single _ _ _ _ _ _ (hlen ▸ Nat.le_trans hb (Nat.le_mul_of_pos_right bpp Nat.one_pos)),
      Nat.mul_zero, Nat.zero_add]
    exact px_get ..
  | y0 :: y1 :: ys, hlen, hu, hv, x, hx =>
    have h2 : 2 * bpp ≤ out.length :=
      hlen ▸ Nat.mul_comm bpp 2 ▸ Nat.mul_le_mul_left bpp (Nat.le_add_left 2 ys.length)
    have hA : (px y0 u v (out.take bpp)).length = bpp :=
      px_length _ _ _ (List.length_take_of_le
        (Nat.le_trans (Nat.le_mul_of_pos_left bpp Nat.two_pos) h2)) hb
    have hB : (px y1 u v ((out.drop bpp).take bpp)).length = bpp :=
      px_length _ _ _ (List.length_take_of_le (by
        rw [List.length_drop]; exact Nat.le_sub_of_add_le (Nat.two_mul bpp ▸ h2))) hb
    rw [hw.pair _ _ _ _ _ _ _ _ h2]
    match x with
    | 0 =>
      rw [Nat.mul_zero, Nat.zero_add, List.getElem?_append_left (hA.symm ▸ hc), px_get,
        List.getElem?_take_of_lt hc]
      rfl
    | 1 =>
      rw [getElem?_chunk_append hA, Nat.mul_zero, Nat.zero_add,
        List.getElem?_append_left (hB.symm ▸ hc), px_get, List.getElem?_take_of_lt hc,
        List.getElem?_drop, Nat.mul_one]
      rfl
    | x + 2 =>
      have half {m : Nat} (h : (ys.length + 1 + 2) / 2 ≤ m + 1) : (ys.length + 1) / 2 ≤ m :=
        Nat.le_of_succ_le_succ (Nat.add_div_right _ Nat.two_pos ▸ h :)
      rw [getElem?_chunk_append hA, getElem?_chunk_append hB,
        hw.get ys us vs _
          (by rw [List.length_drop, hlen, Nat.mul_comm 2]
              exact Nat.sub_eq_of_eq_add (Nat.mul_add bpp ys.length 2))
          (half hu) (half hv) x c (Nat.lt_of_add_lt_add_right hx) hc,
        List.getElem?_drop, Nat.mul_add, Nat.add_assoc, Nat.mul_comm bpp 2,
        Nat.add_div_right x Nat.two_pos, Nat.add_left_comm]
      rfl

theorem fillRgbRow_length (ys us vs out : List Nat) :
    (fillRgbRow ys us vs out).length = out.length := by
  fun_induction fillRgbRow ys us vs out <;> simp only [List.length_cons, *]

theorem fillRgbaRow_length (ys us vs out : List Nat) :
    (fillRgbaRow ys us vs out).length = out.length := by
  fun_induction fillRgbaRow ys us vs out <;> simp only [List.length_cons, *]

theorem rgbRow : RowWriter 3 fillRgbRow where
  bpp_ge := Nat.le_refl 3
  length := fillRgbRow_length
  pair y0 y1 ys u us v vs out h := by
    -- `h` rules out the shorter buffers
    match out, h with
    | _ :: _ :: _ :: _ :: _ :: _ :: _, _ => rfl
  single y u us v vs out h := by
    match out, h with
    | _ :: _ :: _ :: _, _ => rfl

theorem rgbaRow : RowWriter 4 fillRgbaRow where
  bpp_ge := by decide
  length := fillRgbaRow_length
  pair y0 y1 ys u us v vs out h := by
    match out, h with
    | _ :: _ :: _ :: _ :: _ :: _ :: _ :: _ :: _, _ => rfl
  single y u us v vs out h := by
    match out, h with
    | _ :: _ :: _ :: _, _ => rfl

theorem fillRows_get (rowFn : List Nat → List Nat → List Nat → List Nat → List Nat)
    (hrow : ∀ ys us vs o, (rowFn ys us vs o).length = o.length)
    (bpp w cw : Nat) (ybuf ubuf vbuf : List Nat) (n y0 : Nat) (buf : List Nat)
    (hbuf : buf.length = bpp * w * n) (j : Nat) (hj : j < n) (k : Nat) (hk : k < bpp * w) :
    (fillRows rowFn bpp w cw ybuf ubuf vbuf n y0 buf)[j * (bpp * w) + k]? =
      (rowFn ((ybuf.drop ((y0 + j) * w)).take w) (ubuf.drop (cw * ((y0 + j) / 2)))
        (vbuf.drop (cw * ((y0 + j) / 2))) ((buf.drop (j * (bpp * w))).take (bpp * w)))[k]? := by
  induction n generalizing y0 buf j with
  | zero => exact absurd hj (Nat.not_lt_zero j)
  | succ n ih =>
    unfold fillRows
    have htake : (buf.take (bpp * w)).length = bpp * w :=
      List.length_take_of_le (hbuf ▸ Nat.le_mul_of_pos_right _ n.succ_pos)
    match j with
    | 0 =>
      simp only [Nat.zero_mul, Nat.zero_add, Nat.add_zero, List.drop_zero]
      exact List.getElem?_append_left (by rw [hrow, htake]; exact hk)
    | j + 1 =>
      rw [Nat.succ_mul, Nat.add_comm (j * (bpp * w)), Nat.add_assoc,
        List.getElem?_append_right (by rw [hrow, htake]; exact Nat.le_add_right ..), hrow, htake,
        Nat.add_sub_cancel_left,
        ih (y0 + 1) (buf.drop (bpp * w))
          (by rw [List.length_drop, hbuf, Nat.mul_succ, Nat.add_sub_cancel]) j
          (Nat.lt_of_succ_lt_succ hj),
        List.drop_drop, Nat.add_assoc y0 1 j, Nat.add_comm 1 j]

theorem fillRows_length (rowFn : List Nat → List Nat → List Nat → List Nat → List Nat)
    (hrow : ∀ ys us vs o, (rowFn ys us vs o).length = o.length)
    (bpp w cw : Nat) (ybuf ubuf vbuf : List Nat) (n y0 : Nat) (buf : List Nat) :
    (fillRows rowFn bpp w cw ybuf ubuf vbuf n y0 buf).length = buf.length := by
  induction n generalizing y0 buf with
  | zero => rfl
  | succ n ih =>
    rw [fillRows, List.length_append, hrow, ih, ← List.length_append, List.take_append_drop]

theorem getD_drop_take (l : List Nat) (a w x : Nat) (hx : x < w) :
    ((l.drop a).take w).getD x 0 = l.getD (a + x) 0 := by
  simp [List.getD_eq_getElem?_getD, hx]

theorem getD_drop (l : List Nat) (a x : Nat) : (l.drop a).getD x 0 = l.getD (a + x) 0 := by
  simp [List.getD_eq_getElem?_getD]

/-- Pixel (x, y) of a frame written row by row is the kernel of luma (x, y) and chroma
    (x/2, y/2), for every width and height; bytes past the colours keep their value. -/
theorem RowWriter.frame_get {bpp : Nat} {row} (hw : RowWriter bpp row) (w h : Nat)
    (ybuf ubuf vbuf buf : List Nat)
    (hyl : ybuf.length = w * h) (hul : ubuf.length = ((w + 1) / 2) * ((h + 1) / 2))
    (hvl : vbuf.length = ((w + 1) / 2) * ((h + 1) / 2)) (hbl : buf.length = bpp * w * h)
    (x y c : Nat) (hx : x < w) (hy : y < h) (hc : c < bpp) :
    (fillRows row bpp w ((w + 1) / 2) ybuf ubuf vbuf h 0 buf)[(y * w + x) * bpp + c]? =
      if c < 3 then
        some (rgb c (ybuf.getD (y * w + x) 0) (ubuf.getD (((w + 1) / 2) * (y / 2) + x / 2) 0)
          (vbuf.getD (((w + 1) / 2) * (y / 2) + x / 2) 0))
      else buf[(y * w + x) * bpp + c]? := by
  have rows (a : Nat) : y * a + a ≤ a * h :=
    Nat.mul_comm a h ▸ Nat.succ_mul y a ▸ Nat.mul_le_mul_right a hy
  have g2 : ((w + 1) / 2) * (y / 2) + (w + 1) / 2 ≤ ((w + 1) / 2) * ((h + 1) / 2) :=
    Nat.mul_succ .. ▸ Nat.mul_le_mul_left _ (by omega)
  have hidx : (y * w + x) * bpp + c = y * (bpp * w) + (bpp * x + c) := by
    rw [Nat.add_mul, Nat.mul_assoc, Nat.mul_comm w bpp, Nat.mul_comm x bpp, Nat.add_assoc]
  have hk : bpp * x + c < bpp * w :=
    Nat.lt_of_lt_of_le (Nat.add_lt_add_left hc _) (Nat.mul_succ .. ▸ Nat.mul_le_mul_left bpp hx)
  have hys : ((ybuf.drop (y * w)).take w).length = w :=
    List.length_take_of_le (by rw [List.length_drop, hyl]; exact Nat.le_sub_of_add_le' (rows w))
  rw [hidx, fillRows_get row hw.length bpp w _ ybuf ubuf vbuf h 0 buf hbl y hy _ hk, Nat.zero_add,
    hw.get _ _ _ _
      (by rw [hys]
          exact List.length_take_of_le (by rw [List.length_drop, hbl]; exact Nat.le_sub_of_add_le' (rows (bpp * w))))
      (by rw [hys, List.length_drop, hul]; exact Nat.le_sub_of_add_le' g2)
      (by rw [hys, List.length_drop, hvl]; exact Nat.le_sub_of_add_le' g2) x c
      (by rw [hys]; exact hx) hc,
    getD_drop_take _ _ _ _ hx, getD_drop, getD_drop, List.getElem?_take_of_lt hk,
    List.getElem?_drop]

end Yuv
