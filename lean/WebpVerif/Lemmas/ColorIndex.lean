import WebpVerif.Model.ColorIndex
import WebpVerif.Lemmas.ArrayWrites

/-!
The in-place expansion of `apply_color_indexing_transform` (model `CIdx.run`) gives every pixel
the value the specification defines from the ORIGINAL packed index image: a group is always
written over positions at or above the packed pixel it was read from, and never over a group
written before.
-/
namespace CIdx

theorem writeRun_spec (f : Nat → Nat) (out : Nat) (n : Nat) (d : Array Nat) :
    (writeRun d out n f).size = d.size ∧
    ∀ j, (writeRun d out n f)[j]! = if out ≤ j ∧ j < out + n ∧ j < d.size then f (j - out) else d[j]! :=
  ArrayWrites.writes_spec f out d n

theorem entry_eq (pal : Array Nat) (bpe i j : Nat) : entry pal pal.size bpe i j = pal.getD (i / 2 ^ (bpe * j) % 2 ^ bpe) 0 := by
  unfold entry
  simp only
  rw [Nat.mul_comm j bpe, Array.getElem!_eq_getD]
  split <;> rfl

section
variable (pal : Array Nat) (tsize bpe P w iw h : Nat) (d0 : Array Nat)

/-- pixels in the group of packed column `x` -/
def cnt (P w iw x : Nat) : Nat := if x = iw - 1 then w - P * (iw - 1) else P

/-- the geometry of a row: `iw` packed pixels of `P` pixels each cover the `w` pixels, the last one not empty -/
structure Geo (P w iw : Nat) : Prop where
  hP : 1 ≤ P
  hiw : 1 ≤ iw
  hlo : (iw - 1) * P < w
  hhi : w ≤ iw * P

theorem pred_mul_add (n P : Nat) (h : 1 ≤ n) : n * P = (n - 1) * P + P := by
  rw [← Nat.succ_mul, Nat.succ_eq_add_one, Nat.sub_add_cancel h]

theorem succ_mul_le (a b w : Nat) (h : a < b) : a * w + w ≤ b * w := by
  rw [← Nat.succ_mul]; exact Nat.mul_le_mul_right _ h

theorem geo_iw_le (g : Geo P w iw) : iw ≤ w := by
  have h1 : iw - 1 ≤ (iw - 1) * P := Nat.le_mul_of_pos_right _ g.hP
  have := g.hlo; have := g.hiw
  omega

theorem geo_row (g : Geo P w iw) (x : Nat) (hx : x < iw) : x * P + cnt P w iw x ≤ w := by
  unfold cnt
  by_cases h : x = iw - 1
  · rw [if_pos h, h, Nat.mul_comm P]
    have := g.hlo; omega
  · rw [if_neg h]
    have h1 := succ_mul_le x (iw - 1) P (by omega)
    have := g.hlo; omega

theorem geo_cnt_le (g : Geo P w iw) (x : Nat) : cnt P w iw x ≤ P := by
  unfold cnt
  by_cases h : x = iw - 1
  · rw [if_pos h, Nat.mul_comm P]
    have := pred_mul_add iw P g.hiw
    have := g.hhi; omega
  · rw [if_neg h]; exact Nat.le_refl P

/-- the geometry of the code: `⌈w/P⌉` packed pixels per row -/
theorem geo_ceil (hP : 1 ≤ P) (hw : 1 ≤ w) : Geo P w ((w + P - 1) / P) := by
  have hX : w + P - 1 + 1 = w + P := Nat.sub_add_cancel (Nat.le_trans hw (Nat.le_add_right w P))
  generalize w + P - 1 = X at hX ⊢
  have h1 := Nat.div_add_mod X P
  have h2 := Nat.mod_lt X hP
  rw [Nat.mul_comm] at h1
  have hiw : 1 ≤ X / P := (Nat.le_div_iff_mul_le hP).mpr (by omega)
  refine { hP := hP, hiw := hiw, hlo := ?_, hhi := by omega }
  have := pred_mul_add _ P hiw
  omega

/-- a group starts at or above the packed pixel it is computed from -/
theorem geo_above (g : Geo P w iw) (y x : Nat) : y * iw + x ≤ y * w + x * P := by
  have h1 : y * iw ≤ y * w := Nat.mul_le_mul_left _ (geo_iw_le P w iw g)
  have h2 : x ≤ x * P := Nat.le_mul_of_pos_right _ g.hP
  omega

/-- the group of `(y, x)` ends where the groups expanded before it begin, those of later rows and
    those further right in its row -/
theorem geo_before (g : Geo P w iw) (y y' x x' : Nat) (hx : x < iw) (h : y < y' ∨ (y' = y ∧ x < x')) :
    y * w + x * P + cnt P w iw x ≤ y' * w + x' * P := by
  rcases h with h | ⟨rfl, h⟩
  · have h1 := geo_row P w iw g x hx
    have h2 := succ_mul_le y y' w h
    omega
  · have h1 := geo_cnt_le P w iw g x
    have h2 := succ_mul_le x x' P h
    omega

theorem geo_in_buffer (g : Geo P w iw) (y x : Nat) (hx : x < iw) (hy : y < h) :
    y * w + x * P + cnt P w iw x ≤ w * h := by
  have h1 := geo_row P w iw g x hx
  have h2 := succ_mul_le y h w hy
  rw [Nat.mul_comm h w] at h2
  omega

/-- the state when the rows after `y` and the columns `x..` of row `y` are expanded: the packed pixels before
    `(y, x)` are still the original ones -/
structure Inv (y x : Nat) (d : Array Nat) : Prop where
  size : d.size = d0.size
  low : ∀ j, j < y * iw + x → d[j]! = d0[j]!
  done : ∀ y' x', x' < iw → y' < h → (y < y' ∨ (y' = y ∧ x ≤ x')) → ∀ t, t < cnt P w iw x' →
    d[y' * w + x' * P + t]! = entry pal tsize bpe (green d0[y' * iw + x']!) t

theorem rowLoop_inv (g : Geo P w iw) (hsz : d0.size = w * h) (y : Nat) (hy : y < h) :
    ∀ (x : Nat) (d : Array Nat), x ≤ iw → Inv pal tsize bpe P w iw h d0 y x d →
      Inv pal tsize bpe P w iw h d0 y 0 (rowLoop pal tsize bpe P w iw y x d) := by
  intro x
  induction x with
  | zero => intro d _ inv; exact inv
  | succ x ih =>
    intro d hx inv
    rw [rowLoop]
    apply ih _ (Nat.le_of_succ_le hx)
    have hread : d[y * iw + x]! = d0[y * iw + x]! := inv.low _ (Nat.lt_succ_self _)
    rw [hread]
    have hcnt : (if x = iw - 1 then w - P * (iw - 1) else P) = cnt P w iw x := rfl
    rw [hcnt]
    obtain ⟨s1, s2⟩ := writeRun_spec (entry pal tsize bpe (green d0[y * iw + x]!)) (y * w + x * P) (cnt P w iw x) d
    have hbuf := geo_in_buffer P w iw h g y x hx hy
    refine { size := by rw [s1, inv.size], low := ?_, done := ?_ }
    · intro j hj
      have := geo_above P w iw g y x
      rw [s2 j, if_neg fun e => Nat.lt_irrefl j (Nat.lt_of_lt_of_le hj (Nat.le_trans this e.1))]
      exact inv.low j (Nat.lt_succ_of_lt hj)
    · intro y' x' hx' hy' hord t ht
      rw [s2]
      by_cases hcell : y' = y ∧ x' = x
      · obtain ⟨rfl, rfl⟩ := hcell
        rw [if_pos ⟨Nat.le_add_right _ _, Nat.add_lt_add_left ht _, by rw [inv.size, hsz]; exact Nat.lt_of_lt_of_le (Nat.add_lt_add_left ht _) hbuf⟩, Nat.add_sub_cancel_left]
      · have hprev : y < y' ∨ (y' = y ∧ x + 1 ≤ x') :=
          hord.imp_right fun ⟨h1, h2⟩ => ⟨h1, Nat.lt_of_le_of_ne h2 fun e => hcell ⟨h1, e.symm⟩⟩
        have hdis := geo_before P w iw g y y' x x' hx hprev
        rw [if_neg fun e => Nat.lt_irrefl _ (Nat.lt_of_lt_of_le e.2.1 (Nat.le_trans hdis (Nat.le_add_right _ _)))]
        exact inv.done y' x' hx' hy' hprev t ht

theorem run_inv (g : Geo P w iw) (hsz : d0.size = w * h) :
    ∀ (y : Nat) (d : Array Nat), y ≤ h → Inv pal tsize bpe P w iw h d0 y 0 d →
      Inv pal tsize bpe P w iw h d0 0 0 (run pal tsize bpe P w iw y d) := by
  intro y
  induction y with
  | zero => intro d _ inv; exact inv
  | succ y ih =>
    intro d hy inv
    rw [run]
    apply ih _ (Nat.le_of_succ_le hy)
    -- rows `y + 1 ..` done = row `y` done from column `iw` on
    exact rowLoop_inv pal tsize bpe P w iw h d0 g hsz y hy iw d (Nat.le_refl _)
      { size := inv.size,
        low := fun j hj => inv.low j (by rw [Nat.succ_mul]; exact hj),
        done := fun y' x' hx' hy' hord t ht => inv.done y' x' hx' hy' (by omega) t ht }

/-- **in place = out of place**: every pixel of the result is the table entry selected by the
    ORIGINAL packed pixel of its group -/
theorem run_spec (g : Geo P w iw) (hsz : d0.size = w * h) (y X : Nat) (hy : y < h) (hX : X < w) :
    (run pal tsize bpe P w iw h d0)[y * w + X]! = entry pal tsize bpe (green d0[y * iw + X / P]!) (X % P) := by
  have r := run_inv pal tsize bpe P w iw h d0 g hsz h d0 (Nat.le_refl _)
    { size := rfl, low := fun _ _ => rfl, done := fun y' x' _ hy' hord => absurd hy' (hord.elim Nat.lt_asymm fun e => e.1 ▸ Nat.lt_irrefl h) }
  have hPpos : 0 < P := g.hP
  have hx : X / P < iw := Nat.div_lt_of_lt_mul (by rw [Nat.mul_comm]; exact Nat.lt_of_lt_of_le hX g.hhi)
  have hdm := Nat.div_add_mod X P
  have ht : X % P < cnt P w iw (X / P) := by
    unfold cnt
    by_cases hlast : X / P = iw - 1
    · rw [if_pos hlast, ← hlast]
      exact Nat.lt_sub_of_add_lt (by rw [Nat.add_comm, hdm]; exact hX)
    · rw [if_neg hlast]; exact Nat.mod_lt _ hPpos
  have hord : 0 < y ∨ (y = 0 ∧ 0 ≤ X / P) := (Nat.eq_zero_or_pos y).elim (fun h0 => Or.inr ⟨h0, Nat.zero_le _⟩) Or.inl
  rw [← r.done y (X / P) hx hy hord (X % P) ht, Nat.mul_comm (X / P) P, Nat.add_assoc, hdm]

end
end CIdx
