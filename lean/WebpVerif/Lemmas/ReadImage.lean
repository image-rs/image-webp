import WebpVerif.Model.ReadImage

/-!
What `setAlpha255` (the alpha fill of `read_image` for a lossy still with the alpha flag and no ALPH
chunk) leaves at each index of the buffer.
-/
namespace ReadImage

theorem getElem?_setAlpha255 (l : List Nat) :
    ∀ j, (setAlpha255 l)[j]? = if j % 4 = 3 ∧ j < l.length then some 255 else l[j]? := by
  induction l using setAlpha255.induct with
  | case1 r g b a rest ih =>
    intro j
    unfold setAlpha255
    match j with
    | 0 => rfl
    | 1 => rfl
    | 2 => rfl
    | 3 => rfl
    | j + 4 => simp only [List.getElem?_cons_succ, List.length_cons, ih j, Nat.add_mod_right, Nat.add_lt_add_iff_right]
  | case2 l h =>
    intro j
    have hl : l.length < 4 := by
      match l, h with
      | [], _ => exact (by omega : 0 < 4)
      | [_], _ => exact (by omega : 1 < 4)
      | [_, _], _ => exact (by omega : 2 < 4)
      | [_, _, _], _ => exact (by omega : 3 < 4)
      | a :: b :: c :: d :: rest, h => exact absurd rfl (h a b c d rest)
    have : setAlpha255 l = l := by
      unfold setAlpha255
      split
      · rename_i r g b a rest; exact absurd rfl (h r g b a rest)
      · rfl
    rw [this, if_neg (by omega)]

end ReadImage
