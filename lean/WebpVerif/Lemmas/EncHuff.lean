import WebpVerif.Model.EncHuff
import WebpVerif.Spec.Prefix
import WebpVerif.Lemmas.ArrayWrites
import Mathlib.Tactic.Ring
import Mathlib.Tactic.Linarith

namespace EncHuff

theorem foldl_add_sum (f : Nat → Nat) (l : List Nat) : l.foldl (fun acc x => acc + f x) 0 = (l.map f).sum := by
  rw [List.sum_eq_foldl_nat, List.foldl_map]

theorem foldl_max_ge (l : List Nat) : ∀ (a x : Nat), (x ∈ l ∨ x ≤ a) → x ≤ l.foldl max a := by
  induction l with
  | nil => intro a x h; exact h.elim (fun h => absurd h (by simp)) id
  | cons y l ih =>
    intro a x h
    refine ih _ _ ?_
    rcases h with h | h
    · exact (List.mem_cons.mp h).elim (fun e => .inr (e ▸ Nat.le_max_right _ _)) .inl
    · exact .inr (Nat.le_trans h (Nat.le_max_left _ _))

theorem le_foldl_max (l : List Nat) (a : Nat) : ∀ x ∈ l, x ≤ l.foldl max a :=
  fun x h => foldl_max_ge l a x (.inl h)

theorem foldl_max_le : ∀ (ls : List Nat) (a b : Nat), a ≤ b → (∀ l ∈ ls, l ≤ b) → ls.foldl max a ≤ b := by
  intro ls
  induction ls with
  | nil => intro a b h _; exact h
  | cons x ls ih =>
    intro a b h hl
    exact ih (max a x) b (Nat.max_le.mpr ⟨h, hl x List.mem_cons_self⟩) (fun l hm => hl l (List.mem_cons_of_mem _ hm))

/-- the code space of a node is twice that of a child -/
theorem two_pow_sub_succ {L d : Nat} (h : d < L) : 2 ^ (L - d) = 2 ^ (L - (d + 1)) * 2 := by
  rw [← Nat.pow_succ, ← Nat.succ_sub h, Nat.succ_sub_succ]

/-- scaled Kraft sum of a list of `(symbol, depth)` pairs -/
def kraftOf (ds : List (Nat × Nat)) (L : Nat) : Nat := (ds.map fun p => 2 ^ (L - p.2)).sum

theorem kraftOf_append (a b : List (Nat × Nat)) (L : Nat) : kraftOf (a ++ b) L = kraftOf a L + kraftOf b L := by
  unfold kraftOf; simp

theorem depths_ge (t : Tree) : ∀ d, ∀ p ∈ depths t d, d ≤ p.2 := by
  induction t with
  | leaf s => intro d p hp; rw [depths, List.mem_singleton] at hp; rw [hp]
  | node l r ihl ihr =>
    intro d p hp
    rw [depths, List.mem_append] at hp
    exact Nat.le_of_succ_le (hp.elim (ihl _ p) (ihr _ p))

theorem depths_ne_nil (t : Tree) : ∀ d, depths t d ≠ [] := by
  induction t with
  | leaf s => intro d; simp [depths]
  | node l r ihl _ => intro d; simp [depths, ihl]

/-- **Any binary tree is Kraft-complete**: the leaves under a node at depth `d` fill exactly the
    code space `2^(L − d)` of that node, for every `L` at least the maximal leaf depth.
    Independent of how the tree was built (so it survives any tie-breaking of the heap). -/
theorem depths_kraft (t : Tree) (d L : Nat) (h : ∀ p ∈ depths t d, p.2 ≤ L) :
    kraftOf (depths t d) L = 2 ^ (L - d) := by
  induction t generalizing d with
  | leaf s => simp [depths, kraftOf]
  | node l r ihl ihr =>
    rw [depths] at h ⊢
    rw [kraftOf_append, ihl (d + 1) (fun p hp => h p (List.mem_append_left _ hp)),
      ihr (d + 1) (fun p hp => h p (List.mem_append_right _ hp))]
    -- some leaf lies below depth d+1, hence d+1 ≤ L
    obtain ⟨p, hp⟩ := List.exists_mem_of_ne_nil _ (depths_ne_nil l (d + 1))
    rw [two_pow_sub_succ (Nat.le_trans (depths_ge l (d + 1) p hp) (h p (List.mem_append_left _ hp)))]
    exact (Nat.mul_two _).symm

theorem depths_pos (l r : Tree) : ∀ p ∈ depths (.node l r) 0, 1 ≤ p.2 := by
  intro p hp
  rw [depths, List.mem_append] at hp
  exact hp.elim (depths_ge l 1 p) (depths_ge r 1 p)

/-- one move of the limiting loop (take a leaf from level `i < limit` and one from level `limit`,
    put two at level `i + 1`) lowers the scaled Kraft sum by exactly one -/
theorem move_lowers_by_one (limit i : Nat) (hi : i + 1 ≤ limit) :
    2 ^ (limit - i) + 2 ^ (limit - limit) = 2 * 2 ^ (limit - (i + 1)) + 1 := by
  rw [two_pow_sub_succ hi, Nat.sub_self, Nat.pow_zero, Nat.mul_comm]

end EncHuff
