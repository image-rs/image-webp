import WebpVerif.Model.LosslessStream
import WebpVerif.Lemmas.CodeRead

/-!
The stream structure of the lossless specification decodes every stream alike with the
specification's entropy layer (`ReadCode` + canonical symbol decoder) and with the crate's
(`read_huffman_code` + `HuffmanTree`, models `CodeRead` / `Huff`).  The proof is a congruence: code
readers that agree on every well-formed request give equal images, because all bits handed on
are bits of the stream.
-/
namespace LStreamProof
open VP8LP Prefix LStream CodeReadProof

/-- two symbol decoders agree on every bit string, and what they leave is again a bit string -/
def DecAgree (d1 d2 : Dec) : Prop := ∀ bs, Bits01 bs → d1 bs = d2 bs ∧ ∀ s r, d2 bs = some (s, r) → Bits01 r

def GAgree (g1 g2 : Array Dec) : Prop := ∀ k, DecAgree (g1.getD k noDec) (g2.getD k noDec)
def GsAgree (G1 G2 : Array (Array Dec)) : Prop := ∀ k, GAgree (G1.getD k #[]) (G2.getD k #[])

theorem DecAgree.both {d1 d2 : Dec} (h : DecAgree d1 d2) {bs : List Nat} (hb : Bits01 bs) : Both Eq (d1 bs) (d2 bs) := by
  obtain ⟨e, hr⟩ := h bs hb
  rw [e]
  cases h2 : d2 bs with
  | none => exact Both.fail
  | some p => exact ⟨rfl, hr p.1 p.2 h2, rfl⟩

/-- two runs give the same result, and the part `rest` of it (what is left of the stream) is a bit
    string.  `Both Eq` says this of results of the form `(a, rest)`; the steps stated with `EqBits` return
    longer tuples, with the stream further in. -/
def EqBits {α : Type} (rest : α → List Nat) (x y : Option α) : Prop := x = y ∧ ∀ a, y = some a → Bits01 (rest a)

theorem EqBits.none {α : Type} {rest : α → List Nat} : EqBits rest none none := ⟨rfl, fun _ h => by cases h⟩

theorem EqBits.some {α : Type} {rest : α → List Nat} {a : α} (h : Bits01 (rest a)) : EqBits rest (some a) (some a) :=
  ⟨rfl, fun _ e => by cases e; exact h⟩

theorem noDec_agree : DecAgree noDec noDec := fun _ _ => ⟨rfl, fun s r h => by cases h⟩

theorem gagree_empty : GAgree #[] #[] := fun _ => noDec_agree

theorem gsagree_empty : GsAgree #[] #[] := fun _ => gagree_empty

theorem related_push {α : Type} {R : α → α → Prop} {d : α} (hd : R d d) (a1 a2 : Array α) (x1 x2 : α) (hs : a1.size = a2.size)
    (h : ∀ k, R (a1.getD k d) (a2.getD k d)) (hx : R x1 x2) : ∀ k, R ((a1.push x1).getD k d) ((a2.push x2).getD k d) := by
  intro k
  rw [ArrayWrites.getD_push, ArrayWrites.getD_push, hs]
  by_cases h1 : k < a2.size
  · rw [if_pos h1, if_pos h1]; exact h k
  · rw [if_neg h1, if_neg h1]
    by_cases h2 : k = a2.size
    · rw [if_pos h2, if_pos h2]; exact hx
    · rw [if_neg h2, if_neg h2]; exact hd

/-- code readers that agree on every alphabet of the format -/
def RCAgree (rc1 rc2 : RC) : Prop := ∀ a bits, 2 ≤ a → a ≤ 5000 → Bits01 bits → Both DecAgree (rc1 a bits) (rc2 a bits)

theorem readGroupR_agree (rc1 rc2 : RC) (h : RCAgree rc1 rc2) : ∀ (alph : List Nat) (acc1 acc2 : Array Dec) (bits : List Nat),
    (∀ a ∈ alph, 2 ≤ a ∧ a ≤ 5000) → acc1.size = acc2.size → GAgree acc1 acc2 → Bits01 bits →
    Both (fun g1 g2 => g1.size = g2.size ∧ GAgree g1 g2) (readGroupR rc1 alph acc1 bits) (readGroupR rc2 alph acc2 bits) := by
  intro alph
  induction alph with
  | nil => intro acc1 acc2 bits _ hs hg hb; exact ⟨rfl, hb, hs, hg⟩
  | cons a alph ih =>
    intro acc1 acc2 bits ha hs hg hb
    unfold readGroupR
    rcases (h a bits (ha a List.mem_cons_self).1 (ha a List.mem_cons_self).2 hb).cases with ⟨e1, e2⟩ | ⟨d1, d2, r, e1, e2, hr, hd⟩
    · rw [e1, e2]
      exact Both.fail
    · rw [e1, e2]
      exact ih _ _ _ (fun a' ha' => ha a' (List.mem_cons_of_mem _ ha')) (by rw [Array.size_push, Array.size_push, hs])
        (related_push noDec_agree _ _ _ _ hs hg hd) hr

theorem alphabets_ok (cacheBits : Nat) (hc : cacheBits ≤ 11) : ∀ a ∈ alphabets cacheBits, 2 ≤ a ∧ a ≤ 5000 := by
  unfold alphabets
  refine List.forall_mem_cons.mpr ⟨?_, by decide⟩
  have h2 : 2 ^ cacheBits ≤ 2 ^ 11 := Nat.pow_le_pow_right (by decide) hc
  have hp := Nat.two_pow_pos cacheBits
  split <;> omega

theorem readGroupsR_agree (rc1 rc2 : RC) (h : RCAgree rc1 rc2) (cacheBits : Nat) (hc : cacheBits ≤ 11) :
    ∀ (k : Nat) (acc1 acc2 : Array (Array Dec)) (bits : List Nat), acc1.size = acc2.size → GsAgree acc1 acc2 → Bits01 bits →
    Both (fun G1 G2 => GsAgree G1 G2) (readGroupsR rc1 cacheBits k acc1 bits) (readGroupsR rc2 cacheBits k acc2 bits) := by
  intro k
  induction k with
  | zero => intro acc1 acc2 bits _ hg hb; exact ⟨rfl, hb, hg⟩
  | succ k ih =>
    intro acc1 acc2 bits hs hg hb
    unfold readGroupsR
    rcases (readGroupR_agree rc1 rc2 h (alphabets cacheBits) #[] #[] bits (alphabets_ok cacheBits hc) rfl gagree_empty hb).cases with
      ⟨e1, e2⟩ | ⟨g1, g2, r, e1, e2, hr, _, hgg⟩
    · rw [e1, e2]
      exact Both.fail
    · rw [e1, e2]
      exact ih _ _ _ (by rw [Array.size_push, Array.size_push, hs]) (related_push gagree_empty _ _ _ _ hs hg hgg) hr

theorem prefixValue_both (sym : Nat) {bits : List Nat} (hb : Bits01 bits) : Both Eq (prefixValue sym bits) (prefixValue sym bits) := by
  unfold prefixValue
  split
  · exact ⟨rfl, hb, rfl⟩
  · exact Both.bind Both.fail (readBitsL_both _ hb) fun _ _ hb' => ⟨rfl, hb', rfl⟩

theorem stepG_agree (g1 g2 : Array Dec) (hg : GAgree g1 g2) (xsize n cacheBits i : Nat) (rev : List Nat) (cache : Array Nat)
    (bits : List Nat) (hb : Bits01 bits) :
    EqBits (·.2.2.2) (stepG g1 xsize n cacheBits i rev cache bits) (stepG g2 xsize n cacheBits i rev cache bits) := by
  unfold stepG
  refine Both.bind EqBits.none ((hg 0).both hb) fun s b0 hb0 => ?_
  by_cases hs : s < 256
  · -- a literal: red, blue and alpha follow
    rw [if_pos hs, if_pos hs]
    refine Both.bind EqBits.none ((hg 1).both hb0) fun r b1 hb1 => ?_
    refine Both.bind EqBits.none ((hg 2).both hb1) fun bl b2 hb2 => ?_
    exact Both.bind EqBits.none ((hg 3).both hb2) fun a b3 hb3 => .some hb3
  · rw [if_neg hs, if_neg hs]
    by_cases hs2 : s < 256 + 24
    · -- a backward reference: length, then distance symbol and distance
      rw [if_pos hs2, if_pos hs2]
      -- trap: elaborating `prefixValue_both (s - 256) hb0` normalises its type `Both Eq (prefixValue (s - 256) b0) _`,
      -- which unfolds the subtraction 256 deep and hits the recursion limit
      generalize s - 256 = sym
      refine Both.bind EqBits.none (prefixValue_both sym hb0) fun len bp hbp => ?_
      refine Both.bind EqBits.none ((hg 4).both hbp) fun ds b4 hb4 => ?_
      refine Both.bind EqBits.none (prefixValue_both ds hb4) fun dcode bq hbq => ?_
      dsimp only
      split
      · exact .none
      · exact .some hbq
    · -- a colour-cache index
      rw [if_neg hs2, if_neg hs2]
      split
      · exact .none
      split
      · exact .none
      · exact .some hb0

/-- images that differ only in their (agreeing) groups -/
structure ImgAgree (c1 c2 : Img) : Prop where
  xsize : c1.xsize = c2.xsize
  n : c1.n = c2.n
  cacheBits : c1.cacheBits = c2.cacheBits
  prefixBits : c1.prefixBits = c2.prefixBits
  entropy : c1.entropy = c2.entropy
  groups : GsAgree c1.groups c2.groups

theorem group_agree (c1 c2 : Img) (h : ImgAgree c1 c2) (i : Nat) : GAgree (c1.group i) (c2.group i) := by
  unfold Img.group
  rw [h.prefixBits, h.xsize, h.entropy]
  split
  · exact h.groups 0
  · exact h.groups _

theorem step_agree (c1 c2 : Img) (h : ImgAgree c1 c2) (i : Nat) (rev : List Nat) (cache : Array Nat) (bits : List Nat) (hb : Bits01 bits) :
    EqBits (·.2.2.2) (step c1 i rev cache bits) (step c2 i rev cache bits) := by
  unfold step
  rw [h.xsize, h.n, h.cacheBits]
  exact stepG_agree _ _ (group_agree c1 c2 h i) _ _ _ i rev cache bits hb

theorem loop_agree (c1 c2 : Img) (h : ImgAgree c1 c2) : ∀ (fuel i : Nat) (rev : List Nat) (cache : Array Nat) (bits : List Nat),
    Bits01 bits → Both Eq (loop c1 fuel i rev cache bits) (loop c2 fuel i rev cache bits) := by
  intro fuel
  induction fuel with
  | zero =>
    intro i rev cache bits hb
    unfold loop
    rw [h.n]
    split
    · split
      · exact ⟨rfl, hb, rfl⟩
      · exact Both.fail
    · exact Both.fail
  | succ fuel ih =>
    intro i rev cache bits hb
    unfold loop
    rw [h.n]
    split
    · split
      · exact ⟨rfl, hb, rfl⟩
      · exact Both.fail
    · dsimp only
      obtain ⟨e, hrest⟩ := step_agree c1 c2 h i rev cache bits hb
      rw [e]
      cases hs : step c2 i rev cache bits with
      | none => exact Both.fail
      | some r =>
        obtain ⟨i', rev', cache', bits'⟩ := r
        exact ih i' rev' cache' bits' (hrest _ hs)

theorem readCacheBits_both {bits : List Nat} (hb : Bits01 bits) :
    Both (fun cb cb' => cb = cb' ∧ cb' ≤ 11) (readCacheBits bits) (readCacheBits bits) := by
  unfold readCacheBits
  refine Both.bind Both.fail (readBitsL_both 1 hb) fun hasCache b1 hb1 => ?_
  split
  · refine Both.bind Both.fail (readBitsL_both 4 hb1) fun cb b4 hb4 => ?_
    split
    · exact Both.fail
    · exact ⟨rfl, hb4, rfl, by omega⟩
  · exact ⟨rfl, hb1, rfl, by decide⟩

theorem readPixelsR_agree (rc1 rc2 : RC) (h : RCAgree rc1 rc2) (xsize ysize cacheBits prefixBits : Nat) (hc : cacheBits ≤ 11)
    (entropy : Array Nat) (numGroups : Nat) (bits : List Nat) (hb : Bits01 bits) :
    Both Eq (readPixelsR rc1 xsize ysize cacheBits prefixBits entropy numGroups bits)
      (readPixelsR rc2 xsize ysize cacheBits prefixBits entropy numGroups bits) := by
  unfold readPixelsR
  rcases (readGroupsR_agree rc1 rc2 h cacheBits hc numGroups #[] #[] bits rfl gsagree_empty hb).cases with
    ⟨e1, e2⟩ | ⟨G1, G2, b1, e1, e2, hb1, hG⟩
  · rw [e1, e2]
    exact Both.fail
  rw [e1, e2]
  dsimp only
  rcases (loop_agree
      { xsize := xsize, n := xsize * ysize, cacheBits := cacheBits, prefixBits := prefixBits, entropy := entropy, groups := G1 }
      { xsize := xsize, n := xsize * ysize, cacheBits := cacheBits, prefixBits := prefixBits, entropy := entropy, groups := G2 }
      ⟨rfl, rfl, rfl, rfl, rfl, hG⟩ (xsize * ysize) 0 [] (Array.replicate (if cacheBits = 0 then 0 else 2 ^ cacheBits) 0) b1 hb1).cases with
    ⟨e1, e2⟩ | ⟨rev1, rev2, b2, e1, e2, hb2, e⟩
  · rw [e1, e2]
    exact Both.fail
  · rw [e1, e2, e]
    exact ⟨rfl, hb2, rfl⟩

theorem readSubR_agree (rc1 rc2 : RC) (h : RCAgree rc1 rc2) (xsize ysize : Nat) (bits : List Nat) (hb : Bits01 bits) :
    Both Eq (readSubR rc1 xsize ysize bits) (readSubR rc2 xsize ysize bits) := by
  unfold readSubR
  rcases (readCacheBits_both hb).cases with ⟨e, _⟩ | ⟨cb, _, b1, e, _, hb1, rfl, hcb⟩
  · rw [e]
    exact Both.fail
  · rw [e]
    exact readPixelsR_agree rc1 rc2 h xsize ysize cb 0 hcb #[] 1 b1 hb1

theorem readMainR_agree (rc1 rc2 : RC) (h : RCAgree rc1 rc2) (xsize ysize : Nat) (bits : List Nat) (hb : Bits01 bits) :
    Both Eq (readMainR rc1 xsize ysize bits) (readMainR rc2 xsize ysize bits) := by
  unfold readMainR
  rcases (readCacheBits_both hb).cases with ⟨e, _⟩ | ⟨cb, _, b1, e, _, hb1, rfl, hcb⟩
  · rw [e]
    exact Both.fail
  · rw [e]
    dsimp only
    refine Both.bind Both.fail (readBitsL_both 1 hb1) fun hasMeta b2 hb2 => ?_
    by_cases hmeta : hasMeta = 1
    · rw [if_pos hmeta, if_pos hmeta]
      refine Both.bind Both.fail (readBitsL_both 3 hb2) fun pb b3 hb3 => ?_
      rcases (readSubR_agree rc1 rc2 h (VP8L.subSize xsize (pb + 2)) (VP8L.subSize ysize (pb + 2)) b3 hb3).cases with
        ⟨e1, e2⟩ | ⟨img, _, b4, e1, e2, hb4, rfl⟩
      · rw [e1, e2]
        exact Both.fail
      · rw [e1, e2]
        exact readPixelsR_agree rc1 rc2 h xsize ysize cb (pb + 2) hcb _ _ b4 hb4
    · rw [if_neg hmeta, if_neg hmeta]
      exact readPixelsR_agree rc1 rc2 h xsize ysize cb 0 hcb #[] 1 b2 hb2

theorem readTransformsR_agree (rc1 rc2 : RC) (h : RCAgree rc1 rc2) (hh : Nat) : ∀ (fuel xsize : Nat) (seen : List Nat) (ts : List T)
    (bits : List Nat), Bits01 bits →
    EqBits (·.2.2) (readTransformsR rc1 hh fuel xsize seen ts bits) (readTransformsR rc2 hh fuel xsize seen ts bits) := by
  intro fuel
  induction fuel with
  | zero => intro xsize seen ts bits _; exact .none
  | succ fuel ih =>
    intro xsize seen ts bits hb
    unfold readTransformsR
    refine Both.bind EqBits.none (readBitsL_both 1 hb) fun present b1 hb1 => ?_
    by_cases hp : present = 0
    · rw [if_pos hp, if_pos hp]
      exact .some hb1
    rw [if_neg hp, if_neg hp]
    refine Both.bind EqBits.none (readBitsL_both 2 hb1) fun ty b2 hb2 => ?_
    by_cases hseen : seen.contains ty = true
    · rw [if_pos hseen, if_pos hseen]
      exact .none
    rw [if_neg hseen, if_neg hseen]
    by_cases h01 : ty = 0 ∨ ty = 1
    · -- predictor or colour transform: a sub-image
      rw [if_pos h01, if_pos h01]
      refine Both.bind EqBits.none (readBitsL_both 3 hb2) fun sb b3 hb3 => ?_
      rcases (readSubR_agree rc1 rc2 h (VP8L.subSize xsize (sb + 2)) (VP8L.subSize hh (sb + 2)) b3 hb3).cases with
        ⟨e1, e2⟩ | ⟨img, _, b4, e1, e2, hb4, rfl⟩
      · rw [e1, e2]
        exact .none
      · rw [e1, e2]
        exact ih _ _ _ b4 hb4
    rw [if_neg h01, if_neg h01]
    by_cases h2' : ty = 2
    · rw [if_pos h2', if_pos h2']
      exact ih _ _ _ b2 hb2
    -- colour indexing: the colour table is a sub-image
    rw [if_neg h2', if_neg h2']
    refine Both.bind EqBits.none (readBitsL_both 8 hb2) fun n1 b3 hb3 => ?_
    rcases (readSubR_agree rc1 rc2 h (n1 + 1) 1 b3 hb3).cases with ⟨e1, e2⟩ | ⟨tab, _, b4, e1, e2, hb4, rfl⟩
    · rw [e1, e2]
      exact .none
    · rw [e1, e2]
      exact ih _ _ _ b4 hb4

theorem decodeBitsR_agree (rc1 rc2 : RC) (h : RCAgree rc1 rc2) (bits : List Nat) (hb : Bits01 bits) :
    decodeBitsR rc1 bits = decodeBitsR rc2 bits := by
  unfold decodeBitsR
  refine Both.bind rfl (readBitsL_both 8 hb) fun sig b1 hb1 => ?_
  by_cases hsig : sig ≠ 0x2f
  · rw [if_pos hsig, if_pos hsig]
  rw [if_neg hsig, if_neg hsig]
  refine Both.bind rfl (readBitsL_both 14 hb1) fun w1 b2 hb2 => ?_
  refine Both.bind rfl (readBitsL_both 14 hb2) fun h1 b3 hb3 => ?_
  refine Both.bind rfl (readBitsL_both 1 hb3) fun al b4 hb4 => ?_
  refine Both.bind rfl (readBitsL_both 3 hb4) fun ver b5 hb5 => ?_
  by_cases hver : ver ≠ 0
  · rw [if_pos hver, if_pos hver]
  rw [if_neg hver, if_neg hver]
  obtain ⟨et, ht⟩ := readTransformsR_agree rc1 rc2 h (h1 + 1) 5 (w1 + 1) [] [] b5 hb5
  rw [et]
  cases htr : readTransformsR rc2 (h1 + 1) 5 (w1 + 1) [] [] b5 with
  | none => rfl
  | some rt =>
    obtain ⟨xsize, ts, b6⟩ := rt
    dsimp only
    rcases (readMainR_agree rc1 rc2 h xsize (h1 + 1) b6 (ht _ htr)).cases with ⟨e1, e2⟩ | ⟨img, _, _, e1, e2, _, rfl⟩
    · rw [e1, e2]
    · rw [e1, e2]

theorem readSym_rest (t : Huff.Built) (bs : List Nat) (s : Nat) (r : List Nat) (h : Huff.readSym t bs = some (s, r)) (hb : Bits01 bs) :
    Bits01 r := by
  unfold Huff.readSym at h
  cases t with
  | err => cases h
  | single z => cases h; exact hb
  | ok ht =>
    simp only at h
    cases hl : Huff.look ht (Huff.peek16 bs) with
    | none => rw [hl] at h; cases h
    | some p =>
      obtain ⟨s', n⟩ := p
      rw [hl] at h
      simp only at h
      split at h
      · cases h
      · cases h; exact bits01_drop bs n hb

/-- **the crate's code reader and `HuffmanTree` agree with the specification's entropy layer** -/
theorem rc_agree : RCAgree crateRC specRC := by
  intro a bits h2 h5000 hb
  unfold crateRC specRC
  rcases (read_code_both a h2 h5000 bits hb).cases with ⟨e1, e2⟩ | ⟨t, lens, r, e1, e2, hr, hT⟩
  · rw [e1, e2]
    exact Both.fail
  · rw [e1, e2]
    exact ⟨rfl, hr, fun bs hbs => ⟨hT bs hbs, fun s rest hd => (decodeSymbol_sound lens bs s rest hd hbs).2⟩⟩

theorem readGroupR_spec : ∀ (alph : List Nat) (acc : Array Dec) (bits : List Nat),
    readGroupR specRC alph acc bits = readGroup specDec alph acc bits := by
  intro alph
  induction alph with
  | nil => intro _ _; rfl
  | cons a alph ih =>
    intro acc bits
    unfold readGroupR readGroup specRC
    cases readCodeL a bits with
    | none => rfl
    | some r => exact ih _ _

theorem readGroupsR_spec (cacheBits : Nat) : ∀ (k : Nat) (acc : Array (Array Dec)) (bits : List Nat),
    readGroupsR specRC cacheBits k acc bits = readGroups specDec cacheBits k acc bits := by
  intro k
  induction k with
  | zero => intro _ _; rfl
  | succ k ih =>
    intro acc bits
    unfold readGroupsR readGroups
    rw [readGroupR_spec]
    cases readGroup specDec (alphabets cacheBits) #[] bits with
    | none => rfl
    | some r => exact ih _ _

theorem readPixelsR_spec (xsize ysize cacheBits prefixBits : Nat) (entropy : Array Nat) (numGroups : Nat) (bits : List Nat) :
    readPixelsR specRC xsize ysize cacheBits prefixBits entropy numGroups bits =
      readPixels specDec xsize ysize cacheBits prefixBits entropy numGroups bits := by
  unfold readPixelsR readPixels
  rw [readGroupsR_spec]
  rfl

theorem readSubR_spec (xsize ysize : Nat) (bits : List Nat) : readSubR specRC xsize ysize bits = readSub specDec xsize ysize bits := by
  unfold readSubR readSub
  cases readCacheBits bits with
  | none => rfl
  | some r => exact readPixelsR_spec _ _ _ _ _ _ _

theorem readMainR_spec (xsize ysize : Nat) (bits : List Nat) : readMainR specRC xsize ysize bits = readMain specDec xsize ysize bits := by
  unfold readMainR readMain
  simp only [readSubR_spec, readPixelsR_spec]
  rfl

theorem readTransformsR_spec (hh : Nat) : ∀ (fuel xsize : Nat) (seen : List Nat) (ts : List T) (bits : List Nat),
    readTransformsR specRC hh fuel xsize seen ts bits = readTransforms specDec hh fuel xsize seen ts bits := by
  intro fuel
  induction fuel with
  | zero => intro _ _ _ _; rfl
  | succ fuel ih =>
    intro xsize seen ts bits
    unfold readTransformsR readTransforms
    simp only [readSubR_spec, ih]
    rfl

theorem spec_instance (bits : List Nat) : decodeBitsR specRC bits = decodeBits specDec bits := by
  unfold decodeBitsR decodeBits
  simp only [readTransformsR_spec, readMainR_spec]
  rfl

theorem bitsOfBytes_01 (bytes : List Nat) : Bits01 (bitsOfBytes bytes) := by
  intro b hb
  unfold bitsOfBytes at hb
  obtain ⟨x, _, hx⟩ := List.mem_flatMap.mp hb
  obtain ⟨k, _, rfl⟩ := List.mem_map.mp hx
  exact Nat.mod_lt _ (by decide)

/-- **the crate's entropy layer inside the specification's stream structure decodes every byte
    string exactly like the specification** -/
theorem decodeCrate_is_spec (bytes : List Nat) : decodeCrate bytes = VP8LP.decode bytes := by
  unfold decodeCrate VP8LP.decode
  rw [decodeBitsR_agree crateRC specRC rc_agree _ (bitsOfBytes_01 bytes), spec_instance]

end LStreamProof
