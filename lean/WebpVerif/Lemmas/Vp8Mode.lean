import WebpVerif.Model.Vp8Mode
import WebpVerif.Lemmas.MbGrid

/-!
The sub-block mode context bookkeeping (`Vp8Mode.run`) hands every sub-block mode read the modes
of the sub-blocks above and to the left as RFC 6386 section 11.3 defines them.
-/
namespace Vp8Mode
open MbGrid

/-- `top` / `left` hold the plane of sub-block modes `modeAt f`, B_DC_PRED outside the frame
    (entry `x` is written `0 + x`, the form in which `blockGrid_spec` with base 0 speaks of it) -/
structure FInv (f : Frame) (mbx mby : Nat) (s : St) : Prop where
  ctx : Tracks f.W (planeTop f.dc (modeAt f) 4) (planeLeft f.dc (modeAt f) 4) (0 + ·) 4 mbx mby s.top s.left
  out : ∀ c ∈ s.out, c.top = specTop f c ∧ c.left = specLeft f c

theorem modeAt_in (f : Frame) (mbx mby x y : Nat) (hx : x < 4) (hy : y < 4) :
    modeAt f (4 * mbx + x) (4 * mby + y) =
      if f.isB mbx mby then f.sub (4 * mbx + x) (4 * mby + y) else f.implied mbx mby := by
  unfold modeAt
  rw [mul_add_div_lt mbx hx, mul_add_div_lt mby hy]

theorem mbStep_inv (f : Frame) (mbx mby : Nat) (hx : mbx < f.W) (s : St) (inv : FInv f mbx mby s) :
    FInv f (mbx + 1) mby (mbStep f mbx mby s) := by
  unfold mbStep
  by_cases hB : f.isB mbx mby = true
  · rw [if_pos hB]
    have hv : ∀ x y, x < 4 → y < 4 → modeAt f (4 * mbx + x) (4 * mby + y) = f.sub (4 * mbx + x) (4 * mby + y) :=
      fun x y h1 h2 => by rw [modeAt_in f mbx mby x y h1 h2, if_pos hB]
    obtain ⟨g1, g2, g3⟩ := blockGrid_spec (fun x y a l => (⟨mbx, mby, x, y, a, l⟩ : Call))
      (fun x y => f.sub (4 * mbx + x) (4 * mby + y)) 0 4 (by decide)
      (row := fun y => rowLoop mbx mby y (fun x => f.sub (4 * mbx + x) (4 * mby + y)))
      (fun _ _ _ _ _ => rfl) (fun _ _ _ _ _ _ => by rw [Nat.zero_add]; rfl)
      (grid := gridLoop mbx mby (fun x y => f.sub (4 * mbx + x) (4 * mby + y)))
      (fun _ _ _ _ => rfl) (fun _ _ _ _ _ => by rw [Nat.zero_add]; rfl)
      (fun c => c.top = specTop f c ∧ c.left = specLeft f c) (s.top mbx) s.left s.out inv.out
      (fun x y h1 h2 => by
        rw [inv.ctx.above hx x h1, inv.ctx.left y h2]
        exact ⟨above_block (by decide) hv h1 h2, leftOf_block (by decide) hv h1 h2⟩)
    generalize gridLoop mbx mby (fun x y => f.sub (4 * mbx + x) (4 * mby + y)) 4 0 (s.top mbx) s.left s.out = r at g1 g2 g3
    obtain ⟨t1, lf1, out1⟩ := r
    dsimp only at g1 g2 g3 ⊢
    exact {
      ctx := inv.ctx.step_plane (by decide) hv (l' := lf1)
        (fun x h => by rw [g2, if_pos (by omega), Nat.add_sub_cancel_left])
        (fun y h => by rw [g3, if_pos (by omega), Nat.add_sub_cancel_left])
      out := g1 }
  · rw [if_neg hB]
    have hv : ∀ x y, x < 4 → y < 4 → modeAt f (4 * mbx + x) (4 * mby + y) = f.implied mbx mby :=
      fun x y h1 h2 => by rw [modeAt_in f mbx mby x y h1 h2, if_neg hB]
    exact {
      ctx := inv.ctx.step_plane (by decide) hv (fun x h => if_pos (by omega)) (fun y h => if_pos (by omega))
      out := inv.out }

theorem run_spec (f : Frame) : ∀ c ∈ run f, c.top = specTop f c ∧ c.left = specLeft f c := fun c hc =>
  (scan_inv (Inv := FInv f) (reset := fun s : St => { s with left := fun _ => f.dc })
    (fun _ _ _ => rfl) (fun _ _ _ _ => rfl) (fun _ _ => rfl) (fun _ _ _ => rfl)
    (fun mbx mby s h => mbStep_inv f mbx mby h s) (fun _ _ h => ⟨h.ctx.next_row (fun _ => rfl), h.out⟩)
    f.H { top := fun _ _ => f.dc, left := fun _ => f.dc, out := [] }
    ⟨Tracks.init (fun _ _ => rfl) (fun _ => rfl), fun _ hc => (List.not_mem_nil hc).elim⟩).out c (List.mem_reverse.mp hc)

end Vp8Mode
