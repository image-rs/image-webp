import WebpVerif.Lemmas.EncHuffTree

/-!
The binary heap of `build_huffman_tree` (std's `BinaryHeap`, transcribed in `Model/EncHuff.lean`)
keeps the heap order: `rebuild` establishes it, `pop` and the `PeekMut` replacement preserve it,
and the top is a minimum of the frequencies.

All three sifting loops move one misplaced element along a path of the implicit tree by swapping it
with a child or with its parent.  `Hole` says what holds of the rest of the array meanwhile, and
`Hole.swap_down` / `Hole.swap_up` are the two moves.
-/
namespace EncHuff

def fq (h : Heap) (i : Nat) : Nat := h[i]!.freq

theorem fq_swap (h : Heap) (i j : Nat) (hi : i < h.size) (hj : j < h.size) :
    fq (h.swapIfInBounds i j) i = fq h j ∧ fq (h.swapIfInBounds i j) j = fq h i ∧
    ∀ k, k ≠ i → k ≠ j → fq (h.swapIfInBounds i j) k = fq h k := by
  simp only [fq, Array.swapIfInBounds_def, dif_pos hi, dif_pos hj, Array.getElem!_eq_getD,
    Array.getD_eq_getD_getElem?, Array.getElem?_swap]
  refine ⟨?_, by simp, fun k h1 h2 => by rw [if_neg (Ne.symm h2), if_neg (Ne.symm h1)]⟩
  split <;> simp [*]

theorem le_iff (h : Heap) (a b : Nat) : le h[a]! h[b]! = true ↔ fq h b ≤ fq h a := by simp [le, fq]

theorem lt_iff (h : Heap) (a b : Nat) : lt h[a]! h[b]! = true ↔ fq h b < fq h a := by simp [lt, fq]

/-- every node from `s` on is at most its children (indices below `n`) -/
@[reducible] def HeapFrom (h : Heap) (n s : Nat) : Prop :=
  ∀ j, j < n → 1 ≤ j → s ≤ (j - 1) / 2 → fq h ((j - 1) / 2) ≤ fq h j

@[reducible] def MinHeap (h : Heap) : Prop := HeapFrom h h.size 0

@[reducible] def Child (p c : Nat) : Prop := 2 * p + 1 ≤ c ∧ c ≤ 2 * p + 1 + 1

theorem Child.lt {p c : Nat} (h : Child p c) : p < c := by omega

theorem Child.pos {p c : Nat} (h : Child p c) : 0 < c := Nat.lt_of_le_of_lt (Nat.zero_le p) h.lt

theorem Child.parent {c : Nat} (h : 0 < c) : Child ((c - 1) / 2) c := by omega

theorem Child.parent_eq {p q c : Nat} (h1 : Child p c) (h2 : Child q c) : p = q := by omega

/-- an only child is the left one -/
theorem Child.eq_left {p c n : Nat} (h : Child p c) (hn : c < n) (h2 : n ≤ 2 * p + 1 + 1) : c = 2 * p + 1 := by omega

/-- the heap order without the division: this is the form the proofs below work with -/
theorem heapFrom_iff (h : Heap) (n s : Nat) :
    HeapFrom h n s ↔ ∀ p c, Child p c → c < n → s ≤ p → fq h p ≤ fq h c := by
  constructor
  · intro hf p c hc hn hs
    have e := (Child.parent hc.pos).parent_eq hc
    have := hf c hn hc.pos (e ▸ hs)
    rwa [e] at this
  · intro hl j hj h1 hs
    exact hl _ j (Child.parent h1) hj hs

/-- heap order from `s` on except at the links that touch `pos`; the parent of `pos` is at most the
    children of `pos` -/
structure Hole (h : Heap) (n s pos : Nat) : Prop where
  size : h.size = n
  link : ∀ p c, Child p c → c < n → s ≤ p → p ≠ pos → c ≠ pos → fq h p ≤ fq h c
  grand : ∀ q c, Child q pos → Child pos c → c < n → s ≤ q → fq h q ≤ fq h c

theorem Hole.heap {h : Heap} {n s pos : Nat} (ho : Hole h n s pos)
    (up : ∀ q, Child q pos → s ≤ q → fq h q ≤ fq h pos) (down : ∀ c, Child pos c → c < n → fq h pos ≤ fq h c) :
    HeapFrom h n s := by
  rw [heapFrom_iff]
  intro p c hc hn hs
  by_cases hp : p = pos
  · exact hp ▸ down c (hp ▸ hc) hn
  · by_cases hcp : c = pos
    · exact hcp ▸ up p (hcp ▸ hc) hs
    · exact ho.link p c hc hn hs hp hcp

theorem HeapFrom.hole {h g : Heap} {n s pos : Nat} (hf : HeapFrom h n s) (hsz : g.size = n)
    (hg : ∀ k, k ≠ pos → fq g k = fq h k) : Hole g n s pos := by
  rw [heapFrom_iff] at hf
  refine ⟨hsz, fun p c hc hn hs hp hcp => by rw [hg p hp, hg c hcp]; exact hf p c hc hn hs, fun q c hq hc hn hs => ?_⟩
  rw [hg q (Nat.ne_of_lt hq.lt), hg c (Nat.ne_of_gt hc.lt)]
  exact Nat.le_trans (hf q pos hq (Nat.lt_trans hc.lt hn) hs) (hf pos c hc hn (Nat.le_trans hs (Nat.le_of_lt hq.lt)))

/-- swapping the element at `pos` with its least child `c` moves the hole to `c`; if the child was
    the smaller of the two, `c` is then at least its parent -/
theorem Hole.swap_down {h : Heap} {n s pos c : Nat} (ho : Hole h n s pos) (hs : s ≤ pos)
    (hc : Child pos c) (hn : c < n) (hmin : ∀ c', Child pos c' → c' < n → fq h c ≤ fq h c') :
    Hole (h.swapIfInBounds pos c) n s c ∧
    (fq h c ≤ fq h pos → ∀ q, Child q c → fq (h.swapIfInBounds pos c) q ≤ fq (h.swapIfInBounds pos c) c) := by
  have hpc := hc.lt
  obtain ⟨e1, e2, e3⟩ := fq_swap h pos c (ho.size ▸ Nat.lt_trans hpc hn) (ho.size ▸ hn)
  refine ⟨⟨Array.size_swapIfInBounds.trans ho.size, ?_, ?_⟩, ?_⟩
  · intro p c' hc' hn' hs' hp hcc
    by_cases hpp : p = pos
    · subst hpp
      rw [e1, e3 c' (Nat.ne_of_gt hc'.lt) hcc]
      exact hmin c' hc' hn'
    · rw [e3 p hpp hp]
      by_cases hcp : c' = pos
      · subst hcp
        rw [e1]
        exact ho.grand p c hc' hc hn hs'
      · rw [e3 c' hcp hcc]
        exact ho.link p c' hc' hn' hs' hpp hcp
  · intro q c' hq hc' hn' _
    obtain rfl := hq.parent_eq hc
    have hqc := Nat.lt_trans hpc hc'.lt
    rw [e1, e3 c' (Nat.ne_of_gt hqc) (Nat.ne_of_gt hc'.lt)]
    exact ho.link c c' hc' hn' (Nat.le_trans hs (Nat.le_of_lt hpc)) (Nat.ne_of_gt hpc) (Nat.ne_of_gt hqc)
  · intro hle q hq
    obtain rfl := hq.parent_eq hc
    rw [e1, e2]
    exact hle

/-- swapping the element at `pos` with a greater parent `q` moves the hole to `q`, which is then
    at most its children -/
theorem Hole.swap_up {h : Heap} {n s pos q : Nat} (ho : Hole h n s pos) (hs : s ≤ q)
    (hq : Child q pos) (hn : pos < n) (hlt : fq h pos < fq h q) :
    Hole (h.swapIfInBounds pos q) n s q ∧
    ∀ c, Child q c → c < n → fq (h.swapIfInBounds pos q) q ≤ fq (h.swapIfInBounds pos q) c := by
  have hqp := hq.lt
  obtain ⟨e1, e2, e3⟩ := fq_swap h pos q (ho.size ▸ hn) (ho.size ▸ Nat.lt_trans hqp hn)
  refine ⟨⟨Array.size_swapIfInBounds.trans ho.size, ?_, ?_⟩, ?_⟩
  · intro p c hc hn' hs' hp hcq
    by_cases hpp : p = pos
    · subst hpp
      rw [e1, e3 c (Nat.ne_of_gt hc.lt) hcq]
      exact ho.grand q c hq hc hn' hs
    · have hcp : c ≠ pos := fun e => hp (hc.parent_eq (e ▸ hq))
      rw [e3 p hpp hp, e3 c hcp hcq]
      exact ho.link p c hc hn' hs' hpp hcp
  · intro g c hg hc hn' hs'
    have hgq := hg.lt
    have hgp := Nat.lt_trans hgq hqp
    have h1 := ho.link g q hg (Nat.lt_trans hqp hn) hs' (Nat.ne_of_lt hgp) (Nat.ne_of_lt hqp)
    rw [e3 g (Nat.ne_of_lt hgp) (Nat.ne_of_lt hgq)]
    by_cases hcp : c = pos
    · subst hcp; rw [e1]; exact h1
    · rw [e3 c hcp (Nat.ne_of_gt hc.lt)]
      exact Nat.le_trans h1 (ho.link q c hc hn' hs (Nat.ne_of_lt hqp) hcp)
  · intro c hc hn'
    rw [e2]
    by_cases hcp : c = pos
    · subst hcp; rw [e1]; exact Nat.le_of_lt hlt
    · rw [e3 c hcp (Nat.ne_of_gt hc.lt)]
      exact Nat.le_trans (Nat.le_of_lt hlt) (ho.link q c hc hn' hs (Nat.ne_of_lt hqp) hcp)

/-- the child `sift_down_range` and `sift_down_to_bottom` compare with, when there are two -/
theorem minChild (h : Heap) (pos : Nat) :
    ∃ c, (if fq h (2 * pos + 1 + 1) ≤ fq h (2 * pos + 1) then 2 * pos + 1 + 1 else 2 * pos + 1) = c ∧
      Child pos c ∧ ∀ c', Child pos c' → fq h c ≤ fq h c' := by
  have two : ∀ c', Child pos c' → c' = 2 * pos + 1 ∨ c' = 2 * pos + 1 + 1 := fun c' hc' => by omega
  split
  · refine ⟨_, rfl, ⟨Nat.le_succ _, Nat.le_refl _⟩, fun c' hc' => ?_⟩
    rcases two c' hc' with rfl | rfl
    · assumption
    · exact Nat.le_refl _
  · refine ⟨_, rfl, ⟨Nat.le_refl _, Nat.le_succ _⟩, fun c' hc' => ?_⟩
    rcases two c' hc' with rfl | rfl
    · exact Nat.le_refl _
    · exact Nat.le_of_not_le ‹_›

theorem siftDown_heap (n s : Nat) : ∀ (fuel pos : Nat) (h : Heap), s ≤ pos → n ≤ pos + fuel →
    Hole h n s pos → (∀ q, Child q pos → s ≤ q → fq h q ≤ fq h pos) → HeapFrom (siftDownRange h pos n fuel) n s := by
  intro fuel
  induction fuel with
  | zero => intro pos h _ hf ho up; exact ho.heap up (fun c hc hn => absurd (Nat.lt_trans hc.lt hn) (Nat.not_lt.mpr hf))
  | succ fuel ih =>
    intro pos h hsp hf ho up
    rw [siftDownRange]
    simp only [le_iff, lt_iff]
    split
    · -- two children
      obtain ⟨c, e, hc, hmin⟩ := minChild h pos
      rw [e]
      split
      · exact ho.heap up (fun c' hc' _ => Nat.le_trans ‹_› (hmin c' hc'))
      · obtain ⟨ho', up'⟩ := ho.swap_down hsp hc (Nat.lt_of_le_of_lt hc.2 ‹_›) (fun c' hc' _ => hmin c' hc')
        exact ih c _ (Nat.le_trans hsp (Nat.le_of_lt hc.lt)) (by omega) ho'
          (fun q hq _ => up' (Nat.le_of_lt (Nat.lt_of_not_le ‹_›)) q hq)
    · split
      · next h1 =>
        -- one child, smaller than its parent
        obtain ⟨ho', up'⟩ := ho.swap_down hsp ⟨Nat.le_refl _, Nat.le_succ _⟩ (h1.1 ▸ Nat.lt_succ_self _)
          (fun c' hc' hn' => by rw [hc'.eq_left hn' (Nat.le_of_eq h1.1.symm)])
        exact ho'.heap (fun q hq _ => up' (Nat.le_of_lt h1.2) q hq) (fun c hc hn => absurd hc.lt (by omega))
      · exact ho.heap up (fun c hc hn => by rw [hc.eq_left hn (by omega)]; omega)

/-! ### `sift_down_to_bottom` = descend to a leaf, then sift up -/

theorem descend_spec (n : Nat) : ∀ (fuel pos : Nat) (h : Heap), pos < n → n ≤ pos + fuel → Hole h n 0 pos →
    Hole (descend h pos n fuel).1 n 0 (descend h pos n fuel).2 ∧
    (descend h pos n fuel).2 < n ∧ n ≤ 2 * (descend h pos n fuel).2 + 1 := by
  intro fuel
  induction fuel with
  | zero => intro pos h hp hf _; exact absurd hp (Nat.not_lt.mpr hf)
  | succ fuel ih =>
    intro pos h hp hf ho
    rw [descend]
    simp only [le_iff]
    split
    · obtain ⟨c, e, hc, hmin⟩ := minChild h pos
      rw [e]
      have hcn : c < n := Nat.lt_of_le_of_lt hc.2 ‹_›
      exact ih c _ hcn (by omega) (ho.swap_down (Nat.zero_le _) hc hcn (fun c' hc' _ => hmin c' hc')).1
    · split
      · next h1 =>
        exact ⟨(ho.swap_down (Nat.zero_le _) ⟨Nat.le_refl _, Nat.le_succ _⟩ (h1 ▸ Nat.lt_succ_self _)
          (fun c' hc' hn' => by rw [hc'.eq_left hn' (Nat.le_of_eq h1.symm)])).1, h1 ▸ Nat.lt_succ_self _, by omega⟩
      · exact ⟨ho, hp, by omega⟩

theorem siftUp_heap (n : Nat) : ∀ (fuel pos : Nat) (h : Heap), pos < n → pos ≤ fuel → Hole h n 0 pos →
    (∀ c, Child pos c → c < n → fq h pos ≤ fq h c) → HeapFrom (siftUp h 0 pos fuel) n 0 := by
  intro fuel
  induction fuel with
  | zero => intro pos h _ hf ho down; exact ho.heap (fun q hq _ => absurd hq.pos (Nat.not_lt.mpr hf)) down
  | succ fuel ih =>
    intro pos h hp hf ho down
    rw [siftUp]
    simp only [le_iff]
    split
    · have hq := Child.parent ‹_›
      generalize (pos - 1) / 2 = q at hq ⊢
      split
      · exact ho.heap (fun q' hq' _ => by rw [hq'.parent_eq hq]; assumption) down
      · obtain ⟨ho', down'⟩ := ho.swap_up (Nat.zero_le _) hq hp (Nat.lt_of_not_le ‹_›)
        exact ih q _ (Nat.lt_trans hq.lt hp) (Nat.le_of_lt_succ (Nat.lt_of_lt_of_le hq.lt hf)) ho' down'
    · exact ho.heap (fun q hq _ => absurd hq.pos ‹_›) down

theorem root_min (h : Heap) (mh : MinHeap h) : ∀ j, j < h.size → fq h 0 ≤ fq h j := by
  intro j
  induction j using Nat.strong_induction_on with
  | _ j ih =>
    intro hj
    by_cases h0 : j = 0
    · rw [h0]
    · have hc := Child.parent (Nat.pos_of_ne_zero h0)
      generalize (j - 1) / 2 = p at hc
      exact Nat.le_trans (ih p hc.lt (Nat.lt_trans hc.lt hj)) ((heapFrom_iff h _ 0).mp mh p j hc hj (Nat.zero_le p))

theorem fq_set0 (h : Heap) (it : Item) (k : Nat) (hk : k ≠ 0) : fq (h.set! 0 it) k = fq h k := by
  simp [fq, Array.set!_eq_setIfInBounds, Array.getElem!_eq_getD, Array.getD_eq_getD_getElem?, Ne.symm hk]

theorem siftDownToBottom_heap (h : Heap) (hs : 0 < h.size) (ho : Hole h h.size 0 0) : MinHeap (siftDownToBottom h) := by
  unfold MinHeap
  rw [siftDownToBottom_size]
  unfold siftDownToBottom
  obtain ⟨d1, d2, d3⟩ := descend_spec h.size h.size 0 h hs (Nat.le_add_left _ _) ho
  exact siftUp_heap h.size h.size _ _ d2 (Nat.le_of_lt d2) d1
    (fun c hc hn => absurd (Nat.lt_of_le_of_lt hc.1 hn) (Nat.not_lt.mpr d3))

theorem replaceTop_heap (h : Heap) (it : Item) (mh : MinHeap h) : MinHeap (replaceTop h it) := by
  have hsz : (h.set! 0 it).size = h.size := by rw [Array.set!_eq_setIfInBounds, Array.size_setIfInBounds]
  unfold MinHeap
  rw [replaceTop_size, ← hsz]
  exact siftDown_heap _ 0 _ 0 _ (Nat.le_refl _) (Nat.le_add_left _ _) (hsz ▸ mh.hole hsz (fq_set0 h it))
    (fun q hq _ => absurd hq.pos (Nat.lt_irrefl 0))

theorem rebuild_heap (h : Heap) : MinHeap (rebuild h) := by
  have hrs : (rebuild h).size = h.size := by rw [← Array.length_toList, (rebuild_perm h).length_eq, Array.length_toList]
  unfold MinHeap
  rw [hrs]
  unfold rebuild
  -- fold over n = size/2 - 1 … 0
  have key : ∀ (m : Nat) (g : Heap), g.size = h.size → HeapFrom g h.size m →
      HeapFrom ((List.range m).reverse.foldl (fun h' n => siftDownRange h' n h'.size h'.size) g) h.size 0 := by
    intro m
    induction m with
    | zero => intro g _ hf; exact hf
    | succ m ih =>
      intro g hg hf
      rw [List.range_succ, List.reverse_append, List.reverse_singleton, List.singleton_append, List.foldl_cons, hg]
      refine ih _ (by rw [siftDownRange_size, hg]) (siftDown_heap h.size m h.size m g (Nat.le_refl _) (Nat.le_add_left _ _) ?_
        (fun q hq hs => absurd hq.lt (Nat.not_lt.mpr hs)))
      rw [heapFrom_iff] at hf
      exact ⟨hg, fun p c hc hn hs hp _ => hf p c hc hn (Nat.lt_of_le_of_ne hs (Ne.symm hp)),
        fun q c hq _ _ hs => absurd hq.lt (Nat.not_lt.mpr hs)⟩
  exact key (h.size / 2) h rfl (fun j hj h1 hs => by omega)

theorem fq_pop (h : Heap) (k : Nat) (hk : k < h.size - 1) : fq h.pop k = fq h k := by
  unfold fq
  rw [Array.getElem!_eq_getD, Array.getD_eq_getD_getElem?, Array.getElem?_pop, if_pos hk,
    Array.getElem!_eq_getD, Array.getD_eq_getD_getElem?]

theorem pop_heap (h : Heap) (a : Item) (h' : Heap) (mh : MinHeap h) (hp : pop h = some (a, h')) :
    MinHeap h' ∧ (∀ j, j < h.size → a.freq ≤ fq h j) := by
  unfold pop at hp
  split at hp
  · cases hp
  · simp only at hp
    have hpsz : h.pop.size = h.size - 1 := Array.size_pop
    split at hp
    · obtain ⟨rfl, rfl⟩ := Prod.mk.inj (Option.some.inj hp)
      refine ⟨fun j hj => by omega, fun j hj => ?_⟩
      rw [show j = h.size - 1 by omega]; exact Nat.le_refl _
    · obtain ⟨rfl, rfl⟩ := Prod.mk.inj (Option.some.inj hp)
      have hpos : 0 < h.size - 1 := hpsz ▸ Nat.pos_of_ne_zero ‹_›
      have hsz : (h.pop.set! 0 h[h.size - 1]!).size = h.size - 1 := by
        rw [Array.set!_eq_setIfInBounds, Array.size_setIfInBounds, hpsz]
      have hpop : HeapFrom h.pop (h.size - 1) 0 := (heapFrom_iff ..).mpr fun p c hc hn _ => by
        rw [fq_pop h p (Nat.lt_trans hc.lt hn), fq_pop h c hn]
        exact (heapFrom_iff h _ 0).mp mh p c hc (Nat.lt_of_lt_of_le hn (Nat.sub_le _ _)) (Nat.zero_le p)
      refine ⟨siftDownToBottom_heap _ (Nat.lt_of_lt_of_eq hpos hsz.symm) (by rw [hsz]; exact hpop.hole hsz (fq_set0 _ _)), fun j hj => ?_⟩
      show fq h.pop 0 ≤ _
      rw [fq_pop h 0 hpos]
      exact root_min h mh j hj

end EncHuff
