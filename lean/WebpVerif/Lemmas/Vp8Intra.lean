import WebpVerif.Model.Vp8Intra
import WebpVerif.Lemmas.Vp8Pred

/-!
`add_residue` (model `Vp8Intra.addResidue`): every sample of the 4x4 block becomes
`clamp(prediction + residue)`, every other sample of the workspace is left alone - for every
workspace, residue block and block position; and the same for the blocks of a whole macroblock.
-/
namespace Vp8IntraProof
open Vp8Intra

/-- Steps that each rewrite cells of their own: step `k` puts `f k j old` into cell `pos k j`
    (`j < m`) in place of `old` and keeps the rest; no later step touches a cell of an earlier one.
    Then the run rewrites every cell once, from the initial array. -/
theorem foldl_cells (pos : Nat → Nat → Nat) (m : Nat) (f : Nat → Nat → Nat → Nat) (step : Nat → Array Nat → Array Nat)
    (hstep : ∀ k ws, (step k ws).size = ws.size ∧
      (∀ j, j < m → pos k j < ws.size → (step k ws).getD (pos k j) 0 = f k j (ws.getD (pos k j) 0)) ∧
      (∀ q, (∀ j, j < m → pos k j ≠ q) → (step k ws).getD q 0 = ws.getD q 0))
    (ws : Array Nat) :
    ∀ n, (∀ k k' j j', k < k' → k' < n → j < m → j' < m → pos k j ≠ pos k' j') →
      ((List.range n).foldl (fun ws k => step k ws) ws).size = ws.size ∧
      (∀ k j, k < n → j < m → pos k j < ws.size →
        ((List.range n).foldl (fun ws k => step k ws) ws).getD (pos k j) 0 = f k j (ws.getD (pos k j) 0)) ∧
      (∀ q, (∀ k j, k < n → j < m → pos k j ≠ q) → ((List.range n).foldl (fun ws k => step k ws) ws).getD q 0 = ws.getD q 0) := by
  intro n
  induction n with
  | zero => intro _; exact ⟨rfl, fun k j hk => by omega, fun q _ => rfl⟩
  | succ n ih =>
    intro hd
    obtain ⟨hs, ha, hb⟩ := ih (fun k k' j j' h1 h2 => hd k k' j j' h1 (by omega))
    rw [List.range_succ, List.foldl_append, List.foldl_cons, List.foldl_nil]
    generalize (List.range n).foldl (fun ws k => step k ws) ws = prev at hs ha hb
    obtain ⟨s1, s2, s3⟩ := hstep n prev
    refine ⟨s1.trans hs, fun k j hk hj hlt => ?_, fun q hq => ?_⟩
    · by_cases hkn : k = n
      · subst hkn
        rw [s2 j hj (hs ▸ hlt), hb _ (fun k' j' hk' hj' => hd k' k j' j hk' (by omega) hj' hj)]
      · rw [s3 _ (fun j' hj' => (hd k n j j' (by omega) (by omega) hj hj').symm)]
        exact ha k j (by omega) hj hlt
    · rw [s3 _ (fun j hj => hq n j (by omega) hj)]
      exact hb q (fun k j hk => hq k j (by omega))

/-- position of cell `k` of the block -/
def cell (y0 x0 stride k : Nat) : Nat := (y0 + k / 4) * stride + x0 + k % 4

theorem rowcol_inj {S a b a' b' : Nat} (hb : b < S) (hb' : b' < S) (h : a * S + b = a' * S + b') : a = a' ∧ b = b' := by
  have ha : a = a' := by
    have := congrArg (· / S) h
    rwa [Nat.mul_comm a, Nat.mul_comm a', Nat.mul_add_div (by omega), Nat.mul_add_div (by omega), Nat.div_eq_of_lt hb,
      Nat.div_eq_of_lt hb'] at this
  subst ha
  exact ⟨rfl, Nat.add_left_cancel h⟩

theorem addResidue_spec (ws : Array Nat) (rb : Array Int) (y0 x0 stride : Nat) (hs : x0 + 4 ≤ stride) :
    (addResidue ws rb y0 x0 stride).size = ws.size ∧
    (∀ k, k < 16 → cell y0 x0 stride k < ws.size →
      (addResidue ws rb y0 x0 stride).getD (cell y0 x0 stride k) 0 = clampByte (rb.getD k 0 + ws.getD (cell y0 x0 stride k) 0)) ∧
    (∀ q, (∀ k, k < 16 → cell y0 x0 stride k ≠ q) → (addResidue ws rb y0 x0 stride).getD q 0 = ws.getD q 0) := by
  obtain ⟨h1, h2, h3⟩ := foldl_cells (fun k _ => cell y0 x0 stride k) 1 (fun k _ old => clampByte (rb.getD k 0 + old))
    (fun k ws => ws.setIfInBounds (cell y0 x0 stride k) (clampByte (rb.getD k 0 + ws.getD (cell y0 x0 stride k) 0)))
    (fun k ws => ⟨Array.size_setIfInBounds, fun _ _ hlt => by
        rw [Array.getD_eq_getD_getElem?, Array.getElem?_setIfInBounds_self_of_lt hlt]; rfl,
      fun q hq => by
        rw [Array.getD_eq_getD_getElem?, Array.getElem?_setIfInBounds_ne (hq 0 Nat.one_pos), ← Array.getD_eq_getD_getElem?]⟩)
    ws 16 (fun k k' _ _ hk _ _ _ e => by
      unfold cell at e
      rw [Nat.add_assoc, Nat.add_assoc ((y0 + k' / 4) * stride)] at e
      obtain ⟨e1, e2⟩ := rowcol_inj (by have := Nat.mod_lt k (by decide : 0 < 4); omega)
        (by have := Nat.mod_lt k' (by decide : 0 < 4); omega) e
      rw [← Nat.div_add_mod k 4, ← Nat.div_add_mod k' 4, Nat.add_left_cancel e1, Nat.add_left_cancel e2] at hk
      exact Nat.lt_irrefl _ hk)
  exact ⟨h1, fun k hk => h2 k 0 hk Nat.one_pos, fun q hq => h3 q (fun k _ hk _ => hq k hk)⟩

theorem clampByte_spec (v : Int) : (clampByte v : Int) = if v < 0 then 0 else if v > 255 then 255 else v := by
  have h : clampByte v = _ := Vp8PredProof.toNat_clamp v 255
  rw [h]; split <;> (try split) <;> omega

theorem digit_inj {a p a' p' : Nat} (hp : p < 4) (hp' : p' < 4) (h : 1 + a * 4 + p = 1 + a' * 4 + p') : a = a' := by omega

theorem block_getD (res : Array Int) (i k : Nat) (hk : k < 16) (hres : 16 * i + 16 ≤ res.size) :
    (block res i).getD k 0 = res.getD (16 * i + k) 0 := by
  unfold block
  rw [Array.getD_eq_getD_getElem?, Array.getD_eq_getD_getElem?, Array.getElem?_extract, if_pos (by omega)]

/-- The `add_residue` calls of a plane tile it.  In a workspace of `S` bytes per row whose first
    row and column are border, with `m` block rows of `g` blocks, block `i` at block row `i / g` and
    block column `i % g` and its residue the 16 entries of `res` from `16 * ix i`: sample (r, c) of
    the plane is cell `4 (r % 4) + c % 4` of block `(r / 4) g + c / 4`, touched by that call only,
    whatever the predicted workspace `P`. -/
theorem blocks_tile (g S m : Nat) (hg : 0 < g) (hS : 4 * g + 1 ≤ S) (res : Array Int) (ix : Nat → Nat)
    (hres : ∀ i, i < m * g → 16 * ix i + 16 ≤ res.size) (P : Array Nat) (hP : P.size = (4 * m + 1) * S)
    (r c : Nat) (hr : r < 4 * m) (hc : c < 4 * g) :
    ((List.range (m * g)).foldl (fun ws i => addResidue ws (block res (ix i)) (1 + (i / g) * 4) (1 + (i % g) * 4) S) P).getD ((1 + r) * S + 1 + c) 0 =
      clampByte (res.getD (16 * ix ((r / 4) * g + c / 4) + 4 * (r % 4) + c % 4) 0 + P.getD ((1 + r) * S + 1 + c) 0) := by
  have h4 : 0 < 4 := by decide
  have hcg : c / 4 < g := Nat.div_lt_of_lt_mul hc
  have hn : (r / 4) * g + c / 4 < m * g :=
    Nat.lt_of_lt_of_le (Nat.add_lt_add_left hcg _) (Nat.succ_mul _ g ▸ Nat.mul_le_mul_right g (Nat.div_lt_of_lt_mul hr))
  have hcol : ∀ i k, 1 + i % g * 4 + k % 4 < S := fun i k => by
    have := Nat.mod_lt i hg; have := Nat.mod_lt k h4; omega
  have hk : 4 * (r % 4) + c % 4 < 16 := by have := Nat.mod_lt r h4; have := Nat.mod_lt c h4; omega
  have h := (foldl_cells (fun i k => cell (1 + (i / g) * 4) (1 + (i % g) * 4) S k) 16
    (fun i k old => clampByte ((block res (ix i)).getD k 0 + old))
    (fun i ws => addResidue ws (block res (ix i)) (1 + (i / g) * 4) (1 + (i % g) * 4) S)
    (fun i ws => addResidue_spec ws (block res (ix i)) _ _ S (by have := Nat.mod_lt i hg; omega)) P (m * g)
    (fun i i' k k' h1 _ hk hk' e => by
      -- equal cells lie in the same row and column, hence in the same block
      unfold cell at e
      rw [Nat.add_assoc, Nat.add_assoc ((1 + i' / g * 4 + k' / 4) * S)] at e
      obtain ⟨e1, e2⟩ := rowcol_inj (hcol i k) (hcol i' k') e
      rw [← Nat.div_add_mod i g, ← Nat.div_add_mod i' g,
        digit_inj (Nat.div_lt_of_lt_mul hk) (Nat.div_lt_of_lt_mul hk') e1,
        digit_inj (Nat.mod_lt k h4) (Nat.mod_lt k' h4) e2] at h1
      exact Nat.lt_irrefl _ h1)).2.1 ((r / 4) * g + c / 4) (4 * (r % 4) + c % 4) hn hk
  unfold cell at h
  rw [Nat.mul_comm (r / 4) g, Nat.mul_add_div hg, Nat.mul_add_mod, Nat.div_eq_of_lt hcg, Nat.mod_eq_of_lt hcg,
    Nat.mul_add_div h4, Nat.mul_add_mod, Nat.div_eq_of_lt (Nat.mod_lt c h4), Nat.mod_mod, Nat.add_zero, Nat.add_zero,
    Nat.add_assoc 1, Nat.div_add_mod' r 4, Nat.add_assoc ((1 + r) * S), Nat.add_assoc 1, Nat.div_add_mod' c 4, ← Nat.add_assoc,
    Nat.mul_comm g, block_getD res _ _ hk (hres _ hn), ← Nat.add_assoc] at h
  have : (1 + r) * S + S ≤ P.size := hP ▸ Nat.succ_mul _ S ▸ Nat.mul_le_mul_right S (by omega)
  exact h (by omega)

/-- index of sample (r, c) of the macroblock in the 17 x 21 luma workspace -/
def at16 (r c : Nat) : Nat := (1 + r) * 21 + 1 + c

/-- a 16x16-predicted macroblock (`lumaMode ≠ 4`, not B_PRED) is `clamp(prediction + residue)` sample by sample -/
theorem luma16_recon (mbx mby lumaMode : Nat) (hm : lumaMode ≠ 4) (bmodes : Array Nat) (res : Array Int) (ws : Array Nat)
    (hres : res.size = 384) (hws : ws.size = 357) :
    let P := match lumaMode with
      | 1 => Vp8Pred.predict 10 ws 16 1 1 21 true true
      | 2 => Vp8Pred.predict 11 ws 16 1 1 21 true true
      | 3 => Vp8Pred.predict 1 ws 16 1 1 21 true true
      | _ => Vp8Pred.predict 12 ws 16 1 1 21 (mby != 0) (mbx != 0)
    ∀ r c, r < 16 → c < 16 →
      (lumaRecon mbx mby lumaMode bmodes res ws).getD (at16 r c) 0 =
        clampByte (res.getD (16 * ((r / 4) * 4 + c / 4) + 4 * (r % 4) + c % 4) 0 + P.getD (at16 r c) 0) := by
  intro P r c hr hc
  have hP : P.size = 357 := by
    simp only [P]
    split <;> rw [Vp8PredProof.predict_size] <;> exact hws
  unfold lumaRecon
  rw [if_neg hm]
  exact blocks_tile 4 21 4 (by decide) (by decide) res (fun i => i) (fun i h => by omega) P hP r c hr hc

/-- index of sample (r, c) of the macroblock in the 9 x 9 chroma workspace -/
def at8 (r c : Nat) : Nat := (1 + r) * 9 + 1 + c

theorem chroma_recon (mbx mby chromaMode first : Nat) (hf : first ≤ 20) (res : Array Int) (ws : Array Nat)
    (hres : res.size = 384) (hws : ws.size = 81) :
    let P := match chromaMode with
      | 1 => Vp8Pred.predict 10 ws 8 1 1 9 true true
      | 2 => Vp8Pred.predict 11 ws 8 1 1 9 true true
      | 3 => Vp8Pred.predict 1 ws 8 1 1 9 true true
      | _ => Vp8Pred.predict 12 ws 8 1 1 9 (mby != 0) (mbx != 0)
    ∀ r c, r < 8 → c < 8 →
      (chromaRecon mbx mby chromaMode first res ws).getD (at8 r c) 0 =
        clampByte (res.getD (16 * (first + ((r / 4) * 2 + c / 4)) + 4 * (r % 4) + c % 4) 0 + P.getD (at8 r c) 0) := by
  intro P r c hr hc
  have hP : P.size = 81 := by
    simp only [P]
    split <;> rw [Vp8PredProof.predict_size] <;> exact hws
  exact blocks_tile 2 9 2 (by decide) (by decide) res (first + ·) (fun i h => by omega) P hP r c hr hc

end Vp8IntraProof
