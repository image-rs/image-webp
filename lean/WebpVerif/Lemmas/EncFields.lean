import WebpVerif.Lemmas.EncTreeWrite

/-!
The whole output of `Enc.encodeFrame` as one list of `write_bits` fields: header, transform
section, five prefix codes, one field group per token (`encodeFrame_fields`).  Then the contract
of one prefix code between encoder and specification decoder (`CodeOK`), which holds for every
histogram `write_huffman_tree` is called with (`codeOK_tree`).
-/
namespace EncRT
open Enc EncHuff EncTree Prefix BitWriterProof

theorem writeFields_eq (w : BW) (ws : List (Nat × Nat)) : writeFields w ws = writeAll w ws := rfl

/-- the five one-symbol codes of a sub-image: green `g`, red/blue/alpha/distance 0 -/
def subFields (g : Nat) : List (Nat × Nat) :=
  singleFields g ++ (singleFields 0 ++ (singleFields 0 ++ (singleFields 0 ++ singleFields 0)))

/-- the transform section: subtract green, then (optionally) the predictor transform with a
    sub-image whose every block has mode 2, then "no further transform".  LSB first, `0b101` is the
    transform-present bit and type 2 (subtract green); `0b111001` is the present bit, type 0
    (predictor) and `size_bits − 2 = 7` -/
def trFields (pred : Bool) : List (Nat × Nat) :=
  (0b101, 3) :: ((if pred then (0b111001, 6) :: (0, 1) :: subFields 2 else []) ++ [(0, 1)])

/-- the fields of the header, the transform section and the two "no" bits after it (no colour
    cache, no meta prefix image) -/
def headFields (width height : Nat) (isAlpha usePredictor : Bool) : List (Nat × Nat) :=
  [(0x2f, 8), (width - 1, 14), (height - 1, 14), (if isAlpha then 1 else 0, 1), (0, 3)] ++
    (trFields usePredictor ++ [(0, 1), (0, 1)])

theorem foldl_range4 {α : Type} (f : α → α) (w : α) : (List.range 4).foldl (fun w _ => f w) w = f (f (f (f w))) := by
  simp only [List.range_succ, List.range_zero, List.nil_append, List.foldl_append, List.foldl_cons, List.foldl_nil]

theorem writeHeader_fields (w : BW) (width height : Nat) (isAlpha usePredictor : Bool) :
    writeHeader w width height isAlpha usePredictor = writeAll w (headFields width height isAlpha usePredictor) := by
  unfold writeHeader headFields trFields subFields
  simp only [foldl_range4, writeSingle_fields]
  cases usePredictor
  · simp only [Bool.false_eq_true, if_false, List.nil_append, List.cons_append, writeAll_cons, writeAll_nil]
  · simp only [if_true, List.nil_append, List.cons_append, writeAll_cons, writeAll_nil, writeAll_append]

/-- what `write_huffman_tree(freqs)` writes.  As in `Enc.writeHuffmanTree` a panic of `build` goes
    the single-symbol way; under the hypotheses of `C14.full` `build` does not panic -/
def treeFieldsOf (freqs : List Nat) : List (Nat × Nat) :=
  match build freqs 15 with
  | .built lengths _ => treeFields freqs.length lengths.toList
  | _ => singleFields ((if freqs.findIdx (· > 0) < freqs.length then freqs.findIdx (· > 0) else 0) % 256)

/-- the code (lengths, code words) `write_huffman_tree(freqs)` returns -/
def treeCodeOf (freqs : List Nat) : Array Nat × Array Nat :=
  match build freqs 15 with
  | .built lengths codes => (lengths, codes)
  | _ => (Array.replicate freqs.length 0, Array.replicate freqs.length 0)

theorem writeHuffmanTree_eq (w : BW) (freqs : List Nat) :
    writeHuffmanTree w freqs = (writeAll w (treeFieldsOf freqs), treeCodeOf freqs) := by
  unfold treeFieldsOf treeCodeOf
  cases h : build freqs 15 with
  | built lengths codes => rw [write_tree_fields w freqs lengths codes h]
  | single => unfold writeHuffmanTree; rw [h]; simp only [writeSingle_fields]
  | panic m => unfold writeHuffmanTree; rw [h]; simp only [writeSingle_fields]

def isAlphaC (color : Nat) : Prop := color = 1 ∨ color = 3

instance (color : Nat) : Decidable (isAlphaC color) := by unfold isAlphaC; infer_instance

def treesFieldsOf (color : Nat) (usePredictor : Bool) (f : Array Nat × Array Nat × Array Nat × Array Nat) : List (Nat × Nat) :=
  treeFieldsOf f.2.1.toList ++
    ((if color ≥ 2 then treeFieldsOf f.1.toList else singleFields 0) ++
    ((if color ≥ 2 then treeFieldsOf f.2.2.1.toList else singleFields 0) ++
    ((if color = 1 ∨ color = 3 then treeFieldsOf f.2.2.2.toList else singleFields (if usePredictor then 0 else 255)) ++ singleFields 1)))

def tabsOf (color : Nat) (f : Array Nat × Array Nat × Array Nat × Array Nat) : Tabs :=
  let z := Array.replicate 256 0
  { l0 := if color ≥ 2 then (treeCodeOf f.1.toList).1 else z
    c0 := if color ≥ 2 then (treeCodeOf f.1.toList).2 else z
    l1 := (treeCodeOf f.2.1.toList).1
    c1 := (treeCodeOf f.2.1.toList).2
    l2 := if color ≥ 2 then (treeCodeOf f.2.2.1.toList).1 else z
    c2 := if color ≥ 2 then (treeCodeOf f.2.2.1.toList).2 else z
    l3 := if color = 1 ∨ color = 3 then (treeCodeOf f.2.2.2.toList).1 else z
    c3 := if color = 1 ∨ color = 3 then (treeCodeOf f.2.2.2.toList).2 else z }

theorem writeTrees_eq (w : BW) (color : Nat) (usePredictor : Bool) (f : Array Nat × Array Nat × Array Nat × Array Nat) :
    writeTrees w color usePredictor f = (writeAll w (treesFieldsOf color usePredictor f), tabsOf color f) := by
  unfold writeTrees treesFieldsOf tabsOf
  simp only [writeHuffmanTree_eq, writeSingle_fields]
  by_cases hc : color ≥ 2 <;> by_cases ha : color = 1 ∨ color = 3 <;>
    simp only [hc, ha, if_true, if_false, writeAll_append]

/-- the fields of the run part of a token: the length symbol and, from length 5, its extra bits -/
def runFields (tb : Tabs) (run : Nat) : List (Nat × Nat) :=
  if run = 0 then []
  else (tb.c1[runSymbol run]!, tb.l1[runSymbol run]!) ::
    (if run ≤ 4 then [] else [((run - 1) % 2 ^ (lengthToSymbol run).2, (lengthToSymbol run).2)])

/-- the fields of one token as `write_bits` receives them: the literal's code words packed into
    one field, then the run -/
def tokFields (color : Nat) (tb : Tabs) (t : List Nat × Nat) : List (Nat × Nat) :=
  litField color tb t.1 :: runFields tb t.2

theorem writeTok_fields (color : Nat) (tb : Tabs) (w : BW) (t : List Nat × Nat) :
    writeTok color tb w t = writeAll w (tokFields color tb t) := by
  unfold writeTok tokFields runFields runSymbol
  by_cases h0 : t.2 = 0
  · rw [if_pos h0, if_pos h0]; rfl
  · by_cases h4 : t.2 ≤ 4
    · rw [if_neg h0, if_neg h0, if_pos h4, if_pos h4, if_pos h4]; rfl
    · rw [if_neg h0, if_neg h0, if_neg h4, if_neg h4, if_neg h4]; rfl

theorem writeToks_fields (color : Nat) (tb : Tabs) : ∀ (toks : List (List Nat × Nat)) (w : BW),
    toks.foldl (writeTok color tb) w = writeAll w (toks.flatMap (tokFields color tb)) := by
  intro toks
  induction toks with
  | nil => intro w; rfl
  | cons t rest ih =>
    intro w
    rw [List.foldl_cons, ih, writeTok_fields, List.flatMap_cons, writeAll_append]

def frameFields (data : List Nat) (width height color : Nat) (usePredictor : Bool) : List (Nat × Nat) :=
  let px := residuals data width color usePredictor
  let toks := tokenize px px.length
  let f := toks.foldl (countTok (color ≥ 2) (color = 1 ∨ color = 3)) (initFreqs color)
  headFields width height (color = 1 ∨ color = 3) usePredictor ++
    (treesFieldsOf color usePredictor f ++ toks.flatMap (tokFields color (tabsOf color f)))

theorem encodeFrame_fields (data : List Nat) (width height color : Nat) (usePredictor : Bool)
    (hd : ¬ (width = 0 ∨ width > 16384 ∨ height = 0 ∨ height > 16384)) :
    encodeFrame data width height color usePredictor = some (output (frameFields data width height color usePredictor)) := by
  unfold encodeFrame
  rw [if_neg hd]
  simp only [writeHeader_fields, writeTrees_eq, writeToks_fields]
  have e : ∀ ws, output ws = (writeAll BW.empty ws).flush := fun _ => rfl
  rw [e]
  unfold frameFields
  simp only [writeAll_append]

/-- **the contract of one prefix code**: `fields` is what the encoder writes for it, `lens` what
    the specification reads back, and every symbol in `used`, written as `(C[j], L[j])`, decodes
    to itself -/
structure CodeOK (alph : Nat) (fields : List (Nat × Nat)) (L C : Array Nat) (lens : List Nat) (used : Nat → Prop) : Prop where
  valid : Valid fields
  read : ∀ rest, readCodeL alph (fieldBits fields ++ rest) = some (lens, rest)
  sym : ∀ j, used j → SymOK L C lens j

theorem CodeOK.mono {alph : Nat} {fields : List (Nat × Nat)} {L C : Array Nat} {lens : List Nat} {used used' : Nat → Prop}
    (h : CodeOK alph fields L C lens used) (hu : ∀ j, used' j → used j) : CodeOK alph fields L C lens used' :=
  ⟨h.valid, h.read, fun j hj => h.sym j (hu j hj)⟩

theorem readCodeL_single (n s : Nat) (hs : s < n) (h256 : s < 256) (rest : List Nat) :
    readCodeL n (fieldBits (singleFields s) ++ rest) = some (oneHot n s, rest) := by
  -- the symbol is written in `w` = 1 or 8 bits, announced by the bit `b`
  obtain ⟨b, w, hf, hb, hw, hsw⟩ : ∃ b w, singleFields s = [(1, 2), (b, 1), (s, w)] ∧ b < 2 ^ 1 ∧
      (if b = 1 then 8 else 1) = w ∧ s < 2 ^ w := by
    unfold singleFields
    by_cases h1 : s ≤ 1
    · exact ⟨0, 1, by rw [if_pos h1], by decide, rfl, by omega⟩
    · exact ⟨1, 8, by rw [if_neg h1], by decide, rfl, h256⟩
  rw [hf, fieldBits_cons, show lsbBits 1 2 = lsbBits 1 1 ++ lsbBits 0 1 by decide]
  simp (disch := first | decide | assumption) only [readCodeL, fieldBits_cons, fieldBits_nil, List.append_assoc, List.append_nil,
    readBitsL_field, hw, if_true, if_neg (Nat.not_le_of_lt hs)]
  rfl

theorem codeOK_single (n s : Nat) (hs : s < n) (h256 : s < 256) (k : Nat) :
    CodeOK n (singleFields s) (Array.replicate k 0) (Array.replicate k 0) (oneHot n s) (fun j => j = s) where
  valid := singleFields_valid s h256
  read := readCodeL_single n s hs h256
  sym := by
    intro j hj
    unfold SymOK
    rw [hj, ArrayWrites.get_zeros]
    exact ⟨Nat.one_pos, Nat.zero_le _, fun rest => decodeSymbol_oneHot n s hs rest⟩

/-- **the contract holds for every histogram `write_huffman_tree` is called with** (at least one
    used symbol `v0`; it must be writable in 8 bits in case it is the only one) -/
theorem codeOK_tree (f : Array Nat) (hn : f.size ≤ 5000) (hsum : f.toList.sum < 2 ^ 32) (v0 : Nat)
    (h256 : v0 < 256) (hpos : 0 < f[v0]!) :
    ∃ lens, CodeOK f.size (treeFieldsOf f.toList) (treeCodeOf f.toList).1 (treeCodeOf f.toList).2 lens (fun j => j < f.size ∧ 0 < f[j]!) := by
  have hv0 : v0 < f.size := Nat.lt_of_not_le fun h => by
    rw [getElem!_neg f v0 (Nat.not_lt_of_le h)] at hpos; exact Nat.lt_irrefl 0 hpos
  rw [← Array.length_toList] at hn hv0 ⊢
  by_cases h2 : 2 ≤ (f.toList.filter (· > 0)).length
  · obtain ⟨lengths, codes, hb, hsz, hall15, hv, hused, hsym⟩ :=
      built_spec f.toList 15 (by decide) (by decide) h2 hsum (Nat.le_trans hn (by decide))
    have eF : treeFieldsOf f.toList = treeFields f.toList.length lengths.toList := by unfold treeFieldsOf; rw [hb]
    have eLC : treeCodeOf f.toList = (lengths, codes) := by unfold treeCodeOf; rw [hb]
    rw [eF, eLC]
    have hlen : lengths.toList.length = f.toList.length := Array.length_toList.trans hsz
    have hpos : 1 ≤ f.toList.length := Nat.zero_lt_of_lt hv0
    exact ⟨lengths.toList, treeFields_valid _ _ hlen hpos hn hall15, parse_back _ _ hlen hpos hn hall15 hv, fun j ⟨hj, hp⟩ =>
        have ⟨_, c, hc, hfit, hcode⟩ := (hsym j hj).2 (by rw [Array.getElem!_toList]; exact hp)
        symOK_of_canonical lengths codes _ j c hused (toList_getD lengths j)
          (hall15 _ (getElem!_mem lengths j (by rw [hsz]; exact hj))) hc hfit hcode⟩
  · have h1 : (f.toList.filter (· > 0)).length ≤ 1 := by omega
    have hb : build f.toList 15 = .single := by unfold build; rw [if_pos h1]
    have hidx := unique_pos f.toList v0 hv0 (by rw [Array.getElem!_toList]; exact hpos) h1
    have eF : treeFieldsOf f.toList = singleFields v0 := by
      unfold treeFieldsOf; rw [hb]; simp only [hidx, hv0, if_true]; rw [Nat.mod_eq_of_lt h256]
    have eLC : treeCodeOf f.toList = (Array.replicate f.toList.length 0, Array.replicate f.toList.length 0) := by unfold treeCodeOf; rw [hb]
    rw [eF, eLC]
    exact ⟨oneHot f.toList.length v0, (codeOK_single _ v0 hv0 h256 _).mono
      fun j ⟨hj, hp⟩ => (unique_pos f.toList j hj (by rw [Array.getElem!_toList]; exact hp) h1).symm.trans hidx⟩

end EncRT
