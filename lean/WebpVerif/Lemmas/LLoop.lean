import WebpVerif.Model.LosslessLoop
import WebpVerif.Lemmas.ArrayWrites
import Mathlib.Tactic.Ring
import Mathlib.Tactic.SplitIfs

/-!
The pixel loop of `decode_image_data` (model `LLoop.decode`) refines the per-pixel specification
(`LLoop.specDecode`): first the three copy strategies against `target`, then the colour cache, then the
simulation `Rel` between the loop's state and the specification's, one operation at a time.
-/
namespace LLoop
open ArrayWrites

/-- what a pixel is after the LZ77 copy: the last `dist` pixels before `index`, repeated -/
def target (d : Array Nat) (index dist p : Nat) : Nat :=
  if p < index then d[p]! else d[index - dist + (p - index) % dist]!

theorem target_back (d : Array Nat) (index dist p : Nat) (h2 : dist ≤ index) (hp : index ≤ p) :
    target d index dist p = target d index dist (p - dist) := by
  unfold target
  rw [if_neg (Nat.not_lt_of_le hp)]
  split
  · rw [Nat.mod_eq_of_lt (by omega)]; congr 1; omega
  · rw [show p - index = p - dist - index + dist by omega, Nat.add_mod_right]

theorem target_of_lt (d : Array Nat) (index dist p : Nat) (h : p < index) : target d index dist p = d[p]! := if_pos h

theorem target_congr (a b : Array Nat) (index dist p : Nat) (h : ∀ q, q < index → a[q]! = b[q]!)
    (h1 : 1 ≤ dist) (h2 : dist ≤ index) : target a index dist p = target b index dist p := by
  unfold target
  split
  · exact h p ‹_›
  · have : (p - index) % dist < dist := Nat.mod_lt _ (by omega)
    exact h _ (by omega)

theorem fill_spec (d : Array Nat) (start v : Nat) : ∀ n, (fill d start n v).size = d.size ∧
    ∀ p, (fill d start n v)[p]! = if start ≤ p ∧ p < start + n ∧ p < d.size then v else d[p]! :=
  writes_spec (fun _ => v) start d

theorem fill_succ (d : Array Nat) (start n v : Nat) :
    fill d start (n + 1) v = (fill d start n v).setIfInBounds (start + n) v := by
  unfold fill; rw [List.range_succ, List.foldl_append]; rfl

theorem fill_one (d : Array Nat) (index v : Nat) : fill d index 1 v = d.setIfInBounds index v :=
  fill_succ d index 0 v

theorem slowCopy_succ (d : Array Nat) (index dist len : Nat) : slowCopy d index dist (len + 1) =
    (slowCopy d index dist len).setIfInBounds (index + len) (slowCopy d index dist len)[index + len - dist]! := rfl

theorem slowCopy_size (d : Array Nat) (index dist : Nat) : ∀ len, (slowCopy d index dist len).size = d.size := by
  intro len
  induction len with
  | zero => rfl
  | succ len ih => rw [slowCopy_succ, Array.size_setIfInBounds, ih]

theorem slowCopy_one (d : Array Nat) (index : Nat) : ∀ len, index + len ≤ d.size →
    slowCopy d index 1 len = fill d index len d[index - 1]! := by
  intro len
  induction len with
  | zero => intro _; rfl
  | succ len ih =>
    intro h
    rw [slowCopy_succ, ih (Nat.le_of_succ_le h), fill_succ, (fill_spec d index _ len).2]
    split
    · rfl
    · congr 2; omega

theorem fill_cons (d : Array Nat) (i v : Nat) : ∀ n, fill (d.setIfInBounds i v) (i + 1) n v = fill d i (n + 1) v := by
  intro n
  induction n with
  | zero => exact (fill_one d i v).symm
  | succ n ih => rw [fill_succ, ih, fill_succ d i (n + 1), Nat.add_assoc, Nat.add_comm 1 n]

theorem slowCopy_spec (d : Array Nat) (index dist : Nat) (h1 : 1 ≤ dist) (h2 : dist ≤ index) :
    ∀ len, index + len ≤ d.size → (slowCopy d index dist len).size = d.size ∧
      ∀ p, (slowCopy d index dist len)[p]! = if p < index + len then target d index dist p else d[p]! := by
  intro len
  induction len with
  | zero => intro _; exact ⟨rfl, fun p => by split; exact (target_of_lt d index dist p ‹_›).symm; rfl⟩
  | succ len ih =>
    intro hlen
    obtain ⟨i1, i2⟩ := ih (Nat.le_of_succ_le hlen)
    refine ⟨slowCopy_size d index dist _, fun p => ?_⟩
    rw [slowCopy_succ, get_set, i1]
    by_cases hp : p = index + len
    · -- the source lies `dist ≥ 1` back, where the copy is final
      subst hp
      rw [if_pos ⟨rfl, hlen⟩, if_pos (by omega), i2, if_pos (by omega), target_back d index dist (index + len) h2 (Nat.le_add_right _ _)]
    · rw [if_neg (fun h => hp h.1), i2 p]
      by_cases h : p < index + len
      · rw [if_pos h, if_pos (by omega)]
      · rw [if_neg h, if_neg (by omega)]

theorem specCopy_data (c : Cfg) (d cache : Array Nat) (index dist : Nat) :
    ∀ len, (specCopy c d cache index dist len).1 = slowCopy d index dist len := by
  intro len
  induction len with
  | zero => rfl
  | succ len ih =>
    show (specCopy c d cache index dist len).1.setIfInBounds (index + len) (specCopy c d cache index dist len).1[index + len - dist]! = _
    rw [ih]; rfl

theorem copy4_spec (d : Array Nat) (src dst : Nat) : (copy4 d src dst).size = d.size ∧
    ∀ p, (copy4 d src dst)[p]! = if dst ≤ p ∧ p < dst + 4 ∧ p < d.size then d[src + (p - dst)]! else d[p]! := by
  -- all four pixels are read from `d` itself, so the chunk is a run of writes
  have e : copy4 d src dst = (List.range 4).foldl (fun d' t => d'.setIfInBounds (dst + t) d[src + t]!) d := by
    simp only [List.range_succ, List.range_zero, List.nil_append, List.foldl_append, List.foldl_cons, List.foldl_nil]
    rfl
  rw [e]
  exact writes_spec (fun t => d[src + t]!) dst d 4

/-- the state of the chunk loop: everything below `j` is final -/
def ChunkInv (d : Array Nat) (index dist j : Nat) (cur : Array Nat) : Prop :=
  cur.size = d.size ∧ ∀ p, p < j → cur[p]! = target d index dist p

/-- a chunk copied from `dist` back to `j` makes the next `s ≤ dist` pixels final -/
theorem chunk_step (d : Array Nat) (index dist j s : Nat) (cur : Array Nat)
    (h2 : dist ≤ index) (hj : index ≤ j) (hs : s ≤ dist) (hs4 : s ≤ 4) (hsz : j + 4 ≤ d.size)
    (inv : ChunkInv d index dist j cur) : ChunkInv d index dist (j + s) (copy4 cur (j - dist) j) := by
  obtain ⟨isz, ival⟩ := inv
  obtain ⟨c1, c2⟩ := copy4_spec cur (j - dist) j
  refine ⟨c1.trans isz, fun p hp => ?_⟩
  rw [c2 p, isz]
  by_cases hin : j ≤ p ∧ p < j + 4 ∧ p < d.size
  · rw [if_pos hin, show j - dist + (p - j) = p - dist by omega, ival (p - dist) (by omega),
      target_back d index dist p h2 (Nat.le_trans hj hin.1)]
  · rw [if_neg hin]
    exact ival p (by omega)

theorem chunkLoop_spec (d : Array Nat) (index dist s len : Nat)
    (h2 : dist ≤ index) (hs : s ≤ dist) (hs4 : s ≤ 4) (hsz : index + len + 3 ≤ d.size) :
    ∀ fuel k cur, len ≤ (k + fuel) * s → ChunkInv d index dist (index + k * s) cur →
      (chunkLoop index dist s len fuel k cur).size = d.size ∧
      ∀ p, p < index + len → (chunkLoop index dist s len fuel k cur)[p]! = target d index dist p := by
  intro fuel
  induction fuel with
  | zero =>
    intro k cur hlen inv
    rw [Nat.add_zero] at hlen
    exact ⟨inv.1, fun p hp => inv.2 p (Nat.lt_of_lt_of_le hp (Nat.add_le_add_left hlen _))⟩
  | succ fuel ih =>
    intro k cur hlen inv
    unfold chunkLoop
    by_cases hlt : k * s < len
    · rw [if_pos hlt]
      refine ih (k + 1) _ (by rw [Nat.add_right_comm, Nat.add_assoc]; exact hlen) ?_
      rw [Nat.succ_mul, ← Nat.add_assoc, ← Nat.sub_add_comm h2]
      exact chunk_step d index dist _ s cur h2 (Nat.le_add_right _ _) hs hs4 (by omega) inv
    · rw [if_neg hlt]
      exact ⟨inv.1, fun p hp => inv.2 p (Nat.lt_of_lt_of_le hp (Nat.add_le_add_left (Nat.le_of_not_lt hlt) _))⟩

/-- **The chunked overlapping copy is the LZ77 copy** on every pixel up to the end of the reference
    (the up to three pixels it scribbles beyond are inside the buffer and not yet decoded); also for
    distance 1, where the loop takes the run fill instead -/
theorem copyFar_target (d : Array Nat) (n index dist len : Nat) (hn : d.size = n)
    (h1 : 1 ≤ dist) (hd : dist ≤ index) (hl1 : 1 ≤ len) (hlen : index + len ≤ n) :
    (copyFar d n index dist len).size = d.size ∧
    ∀ p, p < index + len → (copyFar d n index dist len)[p]! = target d index dist p := by
  subst hn
  unfold copyFar
  by_cases hfast : index + len + 3 ≤ d.size
  · rw [if_pos hfast]
    have inv1 : ChunkInv d index dist (index + 1 * min dist 4) (copy4 d (index - dist) index) := by
      rw [Nat.one_mul]
      exact chunk_step d index dist index _ d hd (Nat.le_refl _) (Nat.min_le_left _ _) (Nat.min_le_right _ _) (by omega)
        ⟨rfl, fun p hp => (target_of_lt d index dist p hp).symm⟩
    by_cases hcond : len > 4 ∨ dist < 4
    · rw [if_pos hcond]
      exact chunkLoop_spec d index dist (min dist 4) len hd (Nat.min_le_left _ _) (Nat.min_le_right _ _) hfast len 1 _
        (Nat.le_trans (Nat.le_add_left len 1) (Nat.le_mul_of_pos_right _ (by omega))) inv1
    · rw [if_neg hcond]
      exact ⟨inv1.1, fun p hp => inv1.2 p (by omega)⟩
  · rw [if_neg hfast]
    obtain ⟨s1, s2⟩ := slowCopy_spec d index dist h1 hd len hlen
    refine ⟨s1, fun p hp => ?_⟩
    rw [s2 p, if_pos hp]

theorem hash_lt (bits v : Nat) : hashOf bits v < 2 ^ bits := by
  unfold hashOf
  by_cases h1 : bits ≤ 32
  · apply Nat.div_lt_of_lt_mul
    have : 2 ^ (32 - bits) * 2 ^ bits = 2 ^ 32 := by rw [← Nat.pow_add]; congr 1; omega
    rw [this]; exact Nat.mod_lt _ (Nat.two_pow_pos 32)
  · -- more than 32 bits: nothing is shifted out
    rw [show 32 - bits = 0 by omega, Nat.pow_zero, Nat.div_one]
    exact Nat.lt_of_lt_of_le (Nat.mod_lt _ (Nat.two_pow_pos 32)) (Nat.pow_le_pow_right (by omega) (by omega))

theorem insert_size (c : Cfg) (cache : Array Nat) (v : Nat) : (insert c cache v).size = cache.size := by
  unfold insert; split
  · rfl
  · rw [Array.size_setIfInBounds]

theorem insert_noop (c : Cfg) (cache : Array Nat) (v : Nat) (h : c.cacheBits ≠ 0 → cache[hashOf c.cacheBits v]! = v) :
    insert c cache v = cache := by
  unfold insert
  by_cases hb : c.cacheBits = 0
  · rw [if_pos hb]
  · rw [if_neg hb]
    apply arr_ext _ _ (by rw [Array.size_setIfInBounds])
    intro p _
    rw [get_set]
    by_cases hp : p = hashOf c.cacheBits v ∧ hashOf c.cacheBits v < cache.size
    · rw [if_pos hp, hp.1, h hb]
    · rw [if_neg hp]

theorem insert_has (c : Cfg) (cache : Array Nat) (v : Nat) (hb : c.cacheBits ≠ 0)
    (hsz : cache.size = 2 ^ c.cacheBits) : (insert c cache v)[hashOf c.cacheBits v]! = v := by
  unfold insert; rw [if_neg hb]
  exact get_set_self _ _ _ (by rw [hsz]; exact hash_lt _ _)

theorem insert_idem (c : Cfg) (cache : Array Nat) (v : Nat) : insert c (insert c cache v) v = insert c cache v := by
  unfold insert
  by_cases hb : c.cacheBits = 0
  · rw [if_pos hb, if_pos hb]
  · rw [if_neg hb, if_neg hb, Array.setIfInBounds_setIfInBounds]

theorem insertRange_succ (c : Cfg) (cache d : Array Nat) (index len : Nat) :
    insertRange c cache d index (len + 1) = insert c (insertRange c cache d index len) d[index + len]! := by
  unfold insertRange; rw [List.range_succ, List.foldl_append]; rfl

theorem insertRange_size (c : Cfg) (cache d : Array Nat) (index : Nat) : ∀ len, (insertRange c cache d index len).size = cache.size := by
  intro len
  induction len with
  | zero => rfl
  | succ len ih => rw [insertRange_succ, insert_size, ih]

theorem insertRange_congr (c : Cfg) (cache d1 d2 : Array Nat) (index : Nat) : ∀ len,
    (∀ i, i < len → d1[index + i]! = d2[index + i]!) → insertRange c cache d1 index len = insertRange c cache d2 index len := by
  intro len
  induction len with
  | zero => intro _; rfl
  | succ len ih =>
    intro h
    rw [insertRange_succ, insertRange_succ, ih (fun i hi => h i (Nat.lt_succ_of_lt hi)), h len (Nat.lt_succ_self _)]

theorem specCopy_cache (c : Cfg) (d cache : Array Nat) (index dist : Nat) : ∀ len, index + len ≤ d.size →
    (specCopy c d cache index dist len).2 = insertRange c cache (slowCopy d index dist len) index len := by
  intro len
  induction len with
  | zero => intro _; rfl
  | succ len ih =>
    intro hlen
    have e1 : (specCopy c d cache index dist (len + 1)).2 =
        insert c (specCopy c d cache index dist len).2 (specCopy c d cache index dist len).1[index + len - dist]! := rfl
    rw [e1, ih (Nat.le_of_succ_le hlen), specCopy_data, insertRange_succ, slowCopy_succ,
      get_set_self _ _ _ (by rw [slowCopy_size]; exact hlen)]
    exact congrArg (insert c · _) (insertRange_congr c cache _ _ index len fun i hi => (get_set_ne _ _ _ _ (by omega)).symm)

theorem insertRange_const (c : Cfg) (cache d : Array Nat) (index v : Nat) : ∀ len, 1 ≤ len →
    (∀ i, i < len → d[index + i]! = v) → insertRange c cache d index len = insert c cache v := by
  intro len
  induction len with
  | zero => intro h; omega
  | succ len ih =>
    intro _ h
    rw [insertRange_succ, h len (Nat.lt_succ_self _)]
    by_cases hl : len = 0
    · subst hl; rfl
    · rw [ih (Nat.pos_of_ne_zero hl) (fun i hi => h i (Nat.lt_succ_of_lt hi)), insert_idem]

theorem specRun_cons (c : Cfg) (op : Op) (rest : List Op) (d : Array Nat) (index : Nat) (cache : Array Nat)
    (h : index < c.width * c.height) :
    specRun c (op :: rest) d index cache =
      match op with
      | .lit v => specRun c rest (d.setIfInBounds index v) (index + 1) (insert c cache v)
      | .back len dist =>
        if index < dist ∨ c.width * c.height - index < len then .bitstreamError else
        specRun c rest (specCopy c d cache index dist len).1 (index + len) (specCopy c d cache index dist len).2
      | .cache k =>
        if c.cacheBits = 0 then .bitstreamError else
        if k ≥ cache.size then .panic "cache index" else
        specRun c rest (d.setIfInBounds index cache[k]!) (index + 1) (insert c cache cache[k]!) := by
  cases op <;> (rw [specRun]; rw [if_neg (Nat.not_le_of_lt h)])

theorem spec_lits (c : Cfg) (v : Nat) : ∀ cnt (rest : List Op) (d : Array Nat) (index : Nat) (cache : Array Nat),
    1 ≤ cnt → index + cnt ≤ c.width * c.height →
    specRun c (List.replicate cnt (.lit v) ++ rest) d index cache =
      specRun c rest (fill d index cnt v) (index + cnt) (insert c cache v) := by
  intro cnt
  induction cnt with
  | zero => intro _ _ _ _ h; omega
  | succ cnt ih =>
    -- the last literal of the run: it finds its colour in the cache already, unless it is the only one
    intro rest d index cache _ hle
    rw [List.replicate_succ', List.append_assoc, List.singleton_append, fill_succ]
    by_cases hc : cnt = 0
    · subst hc
      rw [List.replicate_zero, List.nil_append, specRun_cons c _ _ d index cache (by omega)]
      rfl
    · rw [ih _ _ _ _ (by omega) (by omega), specRun_cons c _ _ _ _ _ (by omega)]
      simp only
      rw [insert_idem]
      rfl

/-- The loop's state against the specification's buffer and cache.  The buffers agree below `index` only:
    beyond it the loop's may hold what a chunk copy scribbled.  `hlast`: the pixel written last sits in its
    cache slot; this is why a distance-1 run, for which the loop inserts nothing, leaves the cache the
    specification's per-pixel insertions leave. -/
structure Rel (c : Cfg) (sM : St) (dS cacheS : Array Nat) : Prop where
  hsm : sM.data.size = c.width * c.height
  hss : dS.size = c.width * c.height
  hle : sM.index ≤ c.width * c.height
  hnbs : sM.nbs ≤ c.width * c.height
  hdata : ∀ p, p < sM.index → sM.data[p]! = dS[p]!
  hcache : sM.cache = cacheS
  hcsz : c.cacheBits ≠ 0 → cacheS.size = 2 ^ c.cacheBits
  hlast : c.cacheBits ≠ 0 → 0 < sM.index → cacheS[hashOf c.cacheBits dS[sM.index - 1]!]! = dS[sM.index - 1]!

/-- what the rest of the loop is assumed to do (the induction hypothesis of `run_refines`, where
    `k = run c fm`): `fm` is the fuel of `run`, `fuelC` that of the consistency test `cons`; each
    exceeds the number of pixels still to come -/
def Cont (c : Cfg) (k : St → List Op → Res) (fm : Nat) : Prop :=
  ∀ (sM : St) (ops : List Op) (dS cacheS : Array Nat) (fuelC : Nat), Rel c sM dS cacheS →
    cons c fuelC sM.index sM.nbs ops = true → c.width * c.height - sM.index < fuelC →
    c.width * c.height - sM.index < fm → k sM ops = specRun c ops dS sM.index cacheS

/-- both sides after `n ≥ 1` pixels of one colour and one insertion: the fast-path fill, and for `n = 1` a
    literal or cache pixel -/
theorem rel_fill (c : Cfg) (sM : St) (dS cacheS : Array Nat) (v n nbs group : Nat)
    (r : Rel c sM dS cacheS) (hn : 1 ≤ n) (hle : sM.index + n ≤ c.width * c.height) (hnb : nbs ≤ c.width * c.height) :
    Rel c { data := fill sM.data sM.index n v, index := sM.index + n, cache := insert c sM.cache v, nbs := nbs, group := group }
      (fill dS sM.index n v) (insert c cacheS v) := by
  obtain ⟨a1, a2⟩ := fill_spec sM.data sM.index v n
  obtain ⟨b1, b2⟩ := fill_spec dS sM.index v n
  refine { hsm := a1.trans r.hsm, hss := b1.trans r.hss, hle := hle, hnbs := hnb, hdata := fun p hp => ?_,
           hcache := congrArg (insert c · v) r.hcache, hcsz := fun hb => (insert_size c cacheS v).trans (r.hcsz hb),
           hlast := fun hb _ => ?_ }
  · have hp : p < sM.index + n := hp
    show (fill sM.data sM.index n v)[p]! = _
    rw [a2 p, b2 p, r.hsm, r.hss]
    by_cases hin : sM.index ≤ p ∧ p < sM.index + n ∧ p < c.width * c.height
    · rw [if_pos hin, if_pos hin]
    · rw [if_neg hin, if_neg hin]; exact r.hdata p (by omega)
  · show (insert c cacheS v)[hashOf c.cacheBits (fill dS sM.index n v)[sM.index + n - 1]!]! = (fill dS sM.index n v)[sM.index + n - 1]!
    rw [b2, if_pos (by rw [r.hss]; omega)]
    exact insert_has c cacheS v hb (r.hcsz hb)

theorem rel_pixel (c : Cfg) (sM : St) (dS cacheS : Array Nat) (v nbs group : Nat)
    (r : Rel c sM dS cacheS) (hlt : sM.index < c.width * c.height) (hnb : nbs ≤ c.width * c.height) :
    Rel c { data := sM.data.setIfInBounds sM.index v, index := sM.index + 1, cache := insert c sM.cache v, nbs := nbs, group := group }
      (dS.setIfInBounds sM.index v) (insert c cacheS v) := by
  have := rel_fill c sM dS cacheS v 1 nbs group r (Nat.le_refl 1) hlt hnb
  rwa [fill_one, fill_one] at this

theorem rel_back (c : Cfg) (sM : St) (dS cacheS : Array Nat) (len dist nbs group : Nat)
    (r : Rel c sM dS cacheS) (hl1 : 1 ≤ len) (hd1 : 1 ≤ dist) (hd : dist ≤ sM.index)
    (hlen : sM.index + len ≤ c.width * c.height) (hnb : nbs ≤ c.width * c.height) :
    Rel c (if dist = 1 then
          { data := fill sM.data sM.index len sM.data[sM.index - 1]!, index := sM.index + len, cache := sM.cache, nbs := nbs, group := group }
        else
          { data := copyFar sM.data (c.width * c.height) sM.index dist len, index := sM.index + len,
            cache := insertRange c sM.cache (copyFar sM.data (c.width * c.height) sM.index dist len) sM.index len,
            nbs := nbs, group := group })
      (specCopy c dS cacheS sM.index dist len).1 (specCopy c dS cacheS sM.index dist len).2 := by
  rw [specCopy_data, specCopy_cache c dS cacheS sM.index dist len (by rw [r.hss]; exact hlen)]
  by_cases h1 : dist = 1
  · subst h1
    -- both sides fill with the pixel before `index`, which `hlast` finds in the cache: the insertions change nothing
    rw [if_pos rfl, slowCopy_one dS sM.index len (by rw [r.hss]; exact hlen), r.hdata _ (Nat.sub_lt hd Nat.one_pos)]
    have hins : insert c cacheS dS[sM.index - 1]! = cacheS := insert_noop c cacheS _ (fun hb => r.hlast hb hd)
    have hconst : insertRange c cacheS (fill dS sM.index len dS[sM.index - 1]!) sM.index len = cacheS := by
      rw [insertRange_const c cacheS _ sM.index dS[sM.index - 1]! len hl1
        (fun i hi => by rw [(fill_spec dS sM.index _ len).2, if_pos ⟨Nat.le_add_right _ _, Nat.add_lt_add_left hi _, by rw [r.hss]; omega⟩]), hins]
    have hrel := rel_fill c sM dS cacheS dS[sM.index - 1]! len nbs group r hl1 hlen hnb
    rw [r.hcache, hins] at hrel
    rw [hconst]
    exact r.hcache ▸ hrel
  · rw [if_neg h1]
    obtain ⟨s1, s2⟩ := slowCopy_spec dS sM.index dist hd1 hd len (by rw [r.hss]; exact hlen)
    obtain ⟨c1, c2⟩ := copyFar_target sM.data (c.width * c.height) sM.index dist len r.hsm hd1 hd hl1 hlen
    have hvals : ∀ p, p < sM.index + len →
        (copyFar sM.data (c.width * c.height) sM.index dist len)[p]! = (slowCopy dS sM.index dist len)[p]! := by
      intro p hp
      rw [c2 p hp, s2 p, if_pos hp]
      exact target_congr sM.data dS sM.index dist p r.hdata hd1 hd
    have hcache : insertRange c sM.cache (copyFar sM.data (c.width * c.height) sM.index dist len) sM.index len =
        insertRange c cacheS (slowCopy dS sM.index dist len) sM.index len := by
      rw [r.hcache]
      exact insertRange_congr c cacheS _ _ sM.index len (fun i hi => hvals _ (Nat.add_lt_add_left hi _))
    refine { hsm := c1.trans r.hsm, hss := s1.trans r.hss, hle := hlen, hnbs := hnb, hdata := hvals, hcache := hcache,
             hcsz := fun hb => (insertRange_size c cacheS _ _ len).trans (r.hcsz hb), hlast := fun hb _ => ?_ }
    obtain ⟨m, rfl⟩ := Nat.exists_eq_add_one_of_ne_zero (Nat.ne_of_gt hl1)
    show _[hashOf c.cacheBits (slowCopy dS sM.index dist (m + 1))[sM.index + m]!]! = (slowCopy dS sM.index dist (m + 1))[sM.index + m]!
    rw [insertRange_succ]
    exact insert_has c _ _ hb ((insertRange_size c cacheS _ _ m).trans (r.hcsz hb))

theorem fuel_step {N i f : Nat} (n : Nat) (hf : N - i ≤ f) (hn : 1 ≤ n) (hle : i + n ≤ N) : N - (i + n) < f := by omega

theorem opStep_refines (c : Cfg) (k : St → List Op → Res) (fm : Nat) (hk : Cont c k fm)
    (sM : St) (dS cacheS : Array Nat) (nbs group : Nat) (ops : List Op) (fuelC : Nat)
    (r : Rel c sM dS cacheS) (hlt : sM.index < c.width * c.height) (hnbs : nbs ≤ c.width * c.height)
    (hfm : c.width * c.height - sM.index ≤ fm) (hfc : c.width * c.height - sM.index ≤ fuelC)
    (hcons : consOps c (cons c fuelC) sM.index nbs ops = true) :
    opStep c k sM nbs group ops = specRun c ops dS sM.index cacheS := by
  cases ops with
  | nil =>
    unfold opStep; rw [specRun, if_pos hlt]
  | cons op rest =>
    rw [specRun_cons c op rest dS sM.index cacheS hlt]
    cases op with
    | lit v =>
      unfold opStep
      simp only
      exact hk _ rest _ _ fuelC (rel_pixel c sM dS cacheS v nbs group r hlt hnbs) hcons
        (fuel_step 1 hfc (Nat.le_refl 1) hlt) (fuel_step 1 hfm (Nat.le_refl 1) hlt)
    | back len dist =>
      simp only [consOps, Bool.and_eq_true, decide_eq_true_eq] at hcons
      obtain ⟨⟨hl1, hd1⟩, hrest⟩ := hcons
      unfold opStep
      simp only
      by_cases hbad : sM.index < dist ∨ c.width * c.height - sM.index < len
      · rw [if_pos hbad, if_pos hbad]
      · rw [if_neg hbad, if_neg hbad]
        rw [if_neg hbad] at hrest
        have hd := Nat.le_of_not_lt fun h => hbad (.inl h)
        have hlen := Nat.add_le_of_le_sub' (Nat.le_of_lt hlt) (Nat.le_of_not_lt fun h => hbad (.inr h))
        have hrel := rel_back c sM dS cacheS len dist nbs group r hl1 hd1 hd hlen hnbs
        by_cases h1 : dist = 1
        · rw [if_pos h1]; rw [if_pos h1] at hrel
          exact hk _ rest _ _ fuelC hrel hrest (fuel_step len hfc hl1 hlen) (fuel_step len hfm hl1 hlen)
        · rw [if_neg h1]; rw [if_neg h1] at hrel
          exact hk _ rest _ _ fuelC hrel hrest (fuel_step len hfc hl1 hlen) (fuel_step len hfm hl1 hlen)
    | cache k1 =>
      have hrest : cons c fuelC (sM.index + 1) nbs rest = true := hcons
      unfold opStep
      simp only
      by_cases hb : c.cacheBits = 0
      · rw [if_pos hb, if_pos hb]
      · rw [if_neg hb, if_neg hb, r.hcache]
        by_cases hk1 : k1 ≥ cacheS.size
        · rw [if_pos hk1, if_pos hk1]
        · rw [if_neg hk1, if_neg hk1]
          have hrel1 := rel_pixel c sM dS cacheS cacheS[k1]! nbs group r hlt hnbs
          rw [r.hcache] at hrel1
          have plain : k ⟨sM.data.setIfInBounds sM.index cacheS[k1]!, sM.index + 1, insert c cacheS cacheS[k1]!, nbs, group⟩ rest =
              specRun c rest (dS.setIfInBounds sM.index cacheS[k1]!) (sM.index + 1) (insert c cacheS cacheS[k1]!) :=
            hk _ rest _ _ fuelC hrel1 hrest (fuel_step 1 hfc (Nat.le_refl 1) hlt) (fuel_step 1 hfm (Nat.le_refl 1) hlt)
          split
          next k2 rest2 =>
            by_cases hin : sM.index + 1 < nbs
            · rw [if_pos hin]
              have hlt2 : sM.index + 1 < c.width * c.height := Nat.lt_of_lt_of_le hin hnbs
              rw [specRun_cons c (.cache k2) rest2 _ (sM.index + 1) _ hlt2]
              simp only
              rw [if_neg hb]
              by_cases hk2 : k2 ≥ (insert c cacheS cacheS[k1]!).size
              · rw [if_pos hk2, if_pos hk2]
              · rw [if_neg hk2, if_neg hk2]
                -- the second pixel: one more step of the relation, and one more unfolding of `cons`
                have hrel2 := rel_pixel c _ _ _ (insert c cacheS cacheS[k1]!)[k2]! nbs group hrel1 hlt2 hnbs
                obtain ⟨f, rfl⟩ := Nat.exists_eq_add_one_of_ne_zero (Nat.ne_of_gt (Nat.lt_of_lt_of_le (Nat.sub_pos_of_lt hlt) hfc))
                have hrest2 : cons c f (sM.index + 1 + 1) nbs rest2 = true := by
                  rw [cons] at hrest
                  simp only [hlt2, if_true] at hrest
                  rw [if_neg (Nat.not_le_of_lt hin)] at hrest
                  exact hrest
                exact hk _ rest2 _ _ f hrel2 hrest2
                  (fuel_step 1 (Nat.le_of_lt_succ (fuel_step 1 hfc (Nat.le_refl 1) hlt)) (Nat.le_refl 1) hlt2)
                  (Nat.lt_of_le_of_lt (Nat.sub_le_sub_left (Nat.le_succ _) _) (fuel_step 1 hfm (Nat.le_refl 1) hlt))
            · rw [if_neg hin]; exact plain
          next => exact plain

theorem nbsOf_bounds (c : Cfg) (index : Nat) (hlt : index < c.width * c.height) :
    index < nbsOf c index ∧ nbsOf c index ≤ c.width * c.height := by
  unfold nbsOf
  have hw : 0 < c.width := Nat.pos_of_ne_zero fun h => by rw [h, Nat.zero_mul] at hlt; exact Nat.not_lt_zero _ hlt
  have hx : index % c.width < c.width := Nat.mod_lt _ hw
  -- the block ends in the pixel's row, at or after the pixel
  have hmin : index % c.width ≤ min (index % c.width ||| c.mask) (c.width - 1) := Nat.le_min.mpr ⟨Nat.left_le_or, by omega⟩
  have hmax : min (index % c.width ||| c.mask) (c.width - 1) ≤ c.width - 1 := Nat.min_le_right _ _
  have hdm := Nat.div_add_mod index c.width
  have hrow : (index / c.width + 1) * c.width ≤ c.height * c.width := Nat.mul_le_mul_right _ (Nat.div_lt_of_lt_mul hlt)
  rw [Nat.succ_mul, Nat.mul_comm c.height] at hrow
  rw [Nat.mul_comm] at hdm
  omega

theorem fastStep_refines (c : Cfg) (k : St → List Op → Res) (fm : Nat) (hk : Cont c k fm)
    (sM : St) (dS cacheS : Array Nat) (nbs group v : Nat) (ops : List Op) (f : Nat)
    (r : Rel c sM dS cacheS) (hnb : nbs ≤ c.width * c.height)
    (hfm : c.width * c.height - sM.index ≤ fm) (hfc : c.width * c.height - sM.index ≤ f)
    (cnt : Nat) (hc : (if c.bits = 0 then c.width * c.height else nbs - sM.index) = cnt)
    (hcnt1 : 1 ≤ cnt) (hcntn : sM.index + cnt ≤ c.width * c.height)
    (htake : ops.take cnt = List.replicate cnt (.lit v)) (hrest : cons c f (sM.index + cnt) nbs (ops.drop cnt) = true) :
    fastStep c k sM nbs group v ops = specRun c ops dS sM.index cacheS := by
  unfold fastStep
  simp only
  rw [hc]
  rw [if_neg (by rw [r.hsm]; omega)]
  have hops : ops = List.replicate cnt (.lit v) ++ ops.drop cnt := by
    rw [← htake, List.take_append_drop]
  conv_rhs => rw [hops]
  rw [spec_lits c v cnt _ dS sM.index cacheS hcnt1 hcntn]
  exact hk _ _ _ _ f (rel_fill c sM dS cacheS v cnt nbs group r hcnt1 hcntn hnb) hrest
    (fuel_step cnt hfc hcnt1 hcntn) (fuel_step cnt hfm hcnt1 hcntn)

theorem run_refines (c : Cfg) :
    ∀ fm, Cont c (run c fm) fm := by
  intro fm
  induction fm with
  | zero => intro sM ops dS cacheS fuelC _ _ _ h; omega
  | succ fm ih =>
    intro sM ops dS cacheS fuelC r hcons hfc hfm
    obtain ⟨f, rfl⟩ := Nat.exists_eq_add_one_of_ne_zero (Nat.ne_of_gt (Nat.zero_lt_of_lt hfc))
    rw [run]
    by_cases hlt : sM.index < c.width * c.height
    · rw [if_pos hlt]
      rw [cons] at hcons
      simp only [hlt, if_true] at hcons
      by_cases hent : sM.index ≥ sM.nbs
      · rw [if_pos hent]
        rw [if_pos hent] at hcons
        obtain ⟨nb1, nb2⟩ := nbsOf_bounds c sM.index hlt
        cases hsingle : (c.single[huffIndex c (sM.index % c.width) (sM.index / c.width)]?).join with
        | some v =>
          rw [hsingle] at hcons
          simp only [Bool.and_eq_true, decide_eq_true_eq, beq_iff_eq] at hcons
          obtain ⟨⟨⟨h1, h2⟩, h3⟩, h4⟩ := hcons
          exact fastStep_refines c (run c fm) fm ih sM dS cacheS _ _ v ops f r nb2 (Nat.le_of_lt_succ hfm) (Nat.le_of_lt_succ hfc) _ rfl h1 h2 h3 h4
        | none =>
          rw [hsingle] at hcons
          exact opStep_refines c (run c fm) fm ih sM dS cacheS _ _ ops f r hlt nb2 (Nat.le_of_lt_succ hfm) (Nat.le_of_lt_succ hfc) hcons
      · rw [if_neg hent]
        rw [if_neg hent] at hcons
        exact opStep_refines c (run c fm) fm ih sM dS cacheS _ _ ops f r hlt r.hnbs (Nat.le_of_lt_succ hfm) (Nat.le_of_lt_succ hfc) hcons
    · rw [if_neg hlt]
      have hge := Nat.le_of_not_lt hlt
      have hd : sM.data = dS := arr_ext _ _ (by rw [r.hsm, r.hss]) (fun p hp => r.hdata p (Nat.lt_of_lt_of_le (r.hsm ▸ hp) hge))
      cases ops with
      | nil => rw [specRun, if_neg hlt, hd]
      | cons op rest => cases op <;> rw [specRun, if_pos hge, hd]

/-- the loop on one buffer against the specification on another: neither reads what it has not written -/
theorem decode_refines_any (c : Cfg) (init1 init2 : Array Nat) (ops : List Op)
    (h1 : init1.size = c.width * c.height) (h2 : init2.size = c.width * c.height)
    (hcons : cons c (c.width * c.height + 1) 0 0 ops = true) :
    decode c init1 ops = specDecode c init2 ops := by
  unfold decode specDecode
  have r : Rel c (initSt c init1) init2 (Array.replicate (if c.cacheBits = 0 then 0 else 2 ^ c.cacheBits) 0) := by
    refine { hsm := h1, hss := h2, hle := Nat.zero_le _, hnbs := Nat.zero_le _, hdata := fun p hp => absurd hp (Nat.not_lt_zero _),
             hcache := rfl, hcsz := fun hb => by rw [Array.size_replicate, if_neg hb], hlast := fun _ h => absurd h (Nat.lt_irrefl _) }
  exact run_refines c (c.width * c.height + 1) (initSt c init1) ops init2 _ (c.width * c.height + 1) r hcons
    (by show c.width * c.height - 0 < _; omega) (by show c.width * c.height - 0 < _; omega)

end LLoop
