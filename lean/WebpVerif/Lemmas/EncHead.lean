import WebpVerif.Lemmas.EncDecode

/-!
The specification decoder on the header, the transform section (incl. the predictor's sub-image)
and the five prefix codes the encoder writes.
-/
namespace EncRT
open Enc EncTree Prefix VP8LP

theorem readGroup_cons {a : Nat} {alph : List Nat} {acc : Array Dec} {F : List (Nat × Nat)} {lens bits : List Nat}
    (h : ∀ rest, readCodeL a (fieldBits F ++ rest) = some (lens, rest)) :
    readGroup specDec (a :: alph) acc (fieldBits F ++ bits) = readGroup specDec alph (acc.push (specDec lens)) bits := by
  rw [readGroup, h]

/-- an image with one group, no colour cache and no meta prefix image: the group `F`, then the pixel loop -/
theorem readPixels_one (xs ys : Nat) (F : List (Nat × Nat)) (g : Array Dec)
    (hF : ∀ rest, readGroup specDec (alphabets 0) #[] (fieldBits F ++ rest) = some (g, rest)) (bits : List Nat) :
    readPixels specDec xs ys 0 0 #[] 1 (fieldBits F ++ bits) =
      match loop { xsize := xs, n := xs * ys, cacheBits := 0, prefixBits := 0, entropy := #[], groups := #[g] }
          (xs * ys) 0 [] #[] bits with
      | none => none
      | some (rev, bits) => some (rev.reverse, bits) := by
  unfold readPixels readGroups
  rw [hF]
  simp only
  unfold readGroups
  rfl

/-- an image whose five codes all have a single symbol: every pixel is the same and costs no bits -/
def constImg (w n g r b a : Nat) (d4 : Dec) : Img :=
  { xsize := w, n := n, cacheBits := 0, prefixBits := 0, entropy := #[],
    groups := #[#[specDec (oneHot 280 g), specDec (oneHot 256 r), specDec (oneHot 256 b), specDec (oneHot 256 a), d4]] }

theorem step_const (w n g r b a : Nat) (d4 : Dec) (hg : g < 256) (hr : r < 256) (hb : b < 256) (ha : a < 256)
    (i : Nat) (rev : List Nat) (cache : Array Nat) (bits : List Nat) :
    step (constImg w n g r b a d4) i rev cache bits =
      some (i + 1, (a * 2 ^ 24 + r * 2 ^ 16 + g * 2 ^ 8 + b) :: rev, cache, bits) := by
  exact stepG_lit hg (decodeSymbol_oneHot 280 g (by omega) bits)
    (decodeSymbol_oneHot 256 r hr bits) (decodeSymbol_oneHot 256 b hb bits) (decodeSymbol_oneHot 256 a ha bits)

theorem loop_const (w n g r b a : Nat) (d4 : Dec) (hg : g < 256) (hr : r < 256) (hb : b < 256) (ha : a < 256) :
    ∀ (k i : Nat) (rev : List Nat) (cache : Array Nat) (bits : List Nat), i + k = n → ∀ fuel, n - i ≤ fuel →
      loop (constImg w n g r b a d4) fuel i rev cache bits =
        some (List.replicate k (a * 2 ^ 24 + r * 2 ^ 16 + g * 2 ^ 8 + b) ++ rev, bits) := by
  intro k
  induction k with
  | zero =>
    intro i rev cache bits hi fuel _
    rw [← show (constImg w n g r b a d4).n = i from hi.symm]
    exact loop_done _ _ _ _ _
  | succ k ih =>
    intro i rev cache bits hi
    rw [List.replicate_succ', List.append_assoc]
    exact loop_step (step_const w n g r b a d4 hg hr hb ha ..) (show i < n by omega) (Nat.lt_succ_self i)
      (ih (i + 1) _ cache bits (by omega))

/-- the five prefix codes of an image; the fifth is the one-symbol distance code -/
theorem readGroup_enc (F1 F0 F2 F3 : List (Nat × Nat)) (d : Nat) (hd : d < 40) (n1 n0 n2 n3 : List Nat)
    (h1 : ∀ rest, readCodeL 280 (fieldBits F1 ++ rest) = some (n1, rest))
    (h0 : ∀ rest, readCodeL 256 (fieldBits F0 ++ rest) = some (n0, rest))
    (h2 : ∀ rest, readCodeL 256 (fieldBits F2 ++ rest) = some (n2, rest))
    (h3 : ∀ rest, readCodeL 256 (fieldBits F3 ++ rest) = some (n3, rest)) (rest : List Nat) :
    readGroup specDec (alphabets 0) #[] (fieldBits (F1 ++ (F0 ++ (F2 ++ (F3 ++ singleFields d)))) ++ rest) =
      some (#[specDec n1, specDec n0, specDec n2, specDec n3, specDec (oneHot 40 d)], rest) := by
  rw [show alphabets 0 = [280, 256, 256, 256, 40] from rfl]
  simp only [fieldBits_append, List.append_assoc]
  rw [readGroup_cons h1, readGroup_cons h0, readGroup_cons h2, readGroup_cons h3,
    readGroup_cons (readCodeL_single 40 d hd (by omega))]
  rfl

theorem readGroup_singles (g : Nat) (hg : g < 256) (rest : List Nat) :
    readGroup specDec (alphabets 0) #[] (fieldBits (subFields g) ++ rest) =
      some (#[specDec (oneHot 280 g), specDec (oneHot 256 0), specDec (oneHot 256 0), specDec (oneHot 256 0), specDec (oneHot 40 0)], rest) :=
  have h0 := readCodeL_single 256 0 (by decide) (by decide)
  readGroup_enc _ _ _ _ 0 (by decide) _ _ _ _ (readCodeL_single 280 g (by omega) hg) h0 h0 h0 rest

/-- **the predictor's sub-image**: `xs × ys` pixels whose green channel is the mode, no bits each -/
theorem readSub_const (g : Nat) (hg : g < 256) (xs ys : Nat) (rest : List Nat) :
    readSub specDec xs ys (fieldBits ((0, 1) :: subFields g) ++ rest) = some (List.replicate (xs * ys) (g * 2 ^ 8), rest) := by
  have hc := loop_const xs (xs * ys) g 0 0 0 (specDec (oneHot 40 0)) hg (by decide) (by decide) (by decide) (xs * ys) 0 []
    #[] rest (Nat.zero_add _) (xs * ys) (Nat.le_refl _)
  unfold constImg at hc
  simp (disch := decide) only [readSub, readCacheBits, fieldBits_cons, List.append_assoc, readBitsL_field, Nat.zero_ne_one,
    ↓reduceIte, readPixels_one xs ys _ _ (readGroup_singles g hg), hc, List.append_nil, List.reverse_replicate, Nat.zero_mul,
    Nat.zero_add, Nat.add_zero]

/-- the predictor data the encoder writes: every block uses mode 2 (top) -/
def predData (w h : Nat) : Array Nat := (List.replicate (VP8L.subSize w 9 * VP8L.subSize h 9) (2 * 2 ^ 8)).toArray

/-- the transforms of an encoded frame, last one first (the order `applyT` wants) -/
def encTs (w h : Nat) (pred : Bool) : List T :=
  if pred then [T.predictor 9 (predData w h), T.subtractGreen] else [T.subtractGreen]

theorem readTransforms_enc (w h : Nat) (pred : Bool) (rest : List Nat) :
    readTransforms specDec h 5 w [] [] (fieldBits (trFields pred) ++ rest) = some (w, encTs w h pred, rest) := by
  have hsub := fun r => readSub_const 2 (by decide) (VP8L.subSize w (7 + 2)) (VP8L.subSize h (7 + 2)) r
  simp only [fieldBits_cons, List.append_assoc] at hsub
  -- the encoder writes "transform present" together with the type, and for the predictor also the block size
  have e5 : lsbBits 0b101 3 = lsbBits 1 1 ++ lsbBits 2 2 := by decide
  have e57 : lsbBits 0b111001 6 = lsbBits 1 1 ++ (lsbBits 0 2 ++ lsbBits 7 3) := by decide
  unfold trFields encTs
  cases pred <;>
    simp (disch := decide) only [readTransforms, fieldBits_cons, fieldBits_append, fieldBits_nil, List.append_assoc,
      List.nil_append, List.cons_append, e5, e57, readBitsL_field, hsub, ↓reduceIte, Bool.false_eq_true, Nat.one_ne_zero,
      List.contains_cons, List.contains_nil, Nat.reduceBEq, Bool.or_false, Nat.reduceEqDiff, or_self, or_false, List.append_nil]
  rfl

/-- the main image: no colour cache, no meta prefix image, five codes (`F`), then the tokens -/
theorem readMain_enc (w h : Nat) (color : Nat) (hc : color ≤ 3) (tb : Tabs) (ls : Lens) (F : List (Nat × Nat))
    (hF : ∀ rest, readGroup specDec (alphabets 0) #[] (fieldBits F ++ rest) =
      some (#[specDec ls.n1, specDec ls.n0, specDec ls.n2, specDec ls.n3, specDec (oneHot 40 1)], rest))
    (toks : List (List Nat × Nat)) (hok : ∀ t ∈ toks, TokOK color tb ls t) (hlen : (expandToks toks).length = w * h)
    (rest : List Nat) :
    readMain specDec w h (fieldBits [(0, 1), (0, 1)] ++ (fieldBits F ++ (fieldBits (toks.flatMap (tokFields color tb)) ++ rest))) =
      some ((expandToks toks).map pack, rest) := by
  have hl := loop_tokens w (w * h) ls color hc tb toks 0 [] rest hok ((Nat.zero_add _).trans hlen) (w * h) (Nat.le_refl _)
  unfold encImg at hl
  simp (disch := decide) only [readMain, readCacheBits, fieldBits_cons, fieldBits_nil, List.append_assoc,
    readBitsL_field, Nat.zero_ne_one, ↓reduceIte, readPixels_one w h F _ hF, hl, List.append_nil, List.reverse_reverse]

end EncRT
