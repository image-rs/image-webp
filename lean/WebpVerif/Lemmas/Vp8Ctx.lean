import WebpVerif.Model.Vp8Ctx
import WebpVerif.Lemmas.MbGrid

/-!
The context bookkeeping of VP8 coefficient decoding (`Vp8Ctx.run`: the `top` / `left` flag arrays
updated block by block, reset per row, zeroed for skipped macroblocks) passes to every
`read_coefficients` call exactly the context RFC 6386 section 13.3 defines geometrically.
-/
namespace Vp8Ctx
open MbGrid

theorem b2n_false : b2n false = 0 := rfl

/-- the RFC's count of non-zero neighbours, by neighbour -/
theorem nb_eq (nz : Nat → Nat → Bool) (bx by' : Nat) :
    nb nz bx by' = b2n (above false nz bx by') + b2n (leftOf false nz bx by') := by
  unfold nb above leftOf
  rw [Nat.add_comm, apply_ite b2n, apply_ite b2n, b2n_false]

/-- The flag arrays before macroblock (mbx, mby): flag 0 follows the macroblocks that have a Y2
    block, flags 1-4, 5-6, 7-8 the planes of luma, U and V blocks. -/
structure FInv (f : Frame) (mbx mby : Nat) (s : St) : Prop where
  y2 : Tracks f.W (fun c d _ => lastAbove f c d) (fun mby m _ => lastLeft f mby m) (fun _ => 0) 1 mbx mby s.top s.left
  pY : Tracks f.W (planeTop false (nzY f) 4) (planeLeft false (nzY f) 4) (1 + ·) 4 mbx mby s.top s.left
  pU : Tracks f.W (planeTop false (nzU f) 2) (planeLeft false (nzU f) 2) (5 + ·) 2 mbx mby s.top s.left
  pV : Tracks f.W (planeTop false (nzV f) 2) (planeLeft false (nzV f) 2) (7 + ·) 2 mbx mby s.top s.left
  out : ∀ c ∈ s.out, c.ctx = specCtx f c

/-- The `n × n` blocks of one plane (flags `base ..`, values `NZ` over the frame) in a macroblock
    with coefficients: every call gets the RFC's context, the flags end as `blockGrid_spec` says. -/
theorem plane_spec (f : Frame) (mbx mby kind base n : Nat) (hn : 0 < n) (raw NZ : Nat → Nat → Bool)
    (hNZ : ∀ x y, x < n → y < n → NZ (n * mbx + x) (n * mby + y) = raw (n * mbx + x) (n * mby + y))
    (hspec : ∀ x y ctx, specCtx f ⟨mbx, mby, kind, x, y, ctx⟩ = nb NZ (n * mbx + x) (n * mby + y))
    (t lf : Flags) (out : List Call) (ho : ∀ c ∈ out, c.ctx = specCtx f c)
    (ht : ∀ x, x < n → t (base + x) = planeTop false NZ n mbx mby x)
    (hl : ∀ y, y < n → lf (base + y) = planeLeft false NZ n mby mbx y) {t' lf' : Flags} {out' : List Call}
    (he : gridLoop mbx mby kind base n (fun x y => raw (n * mbx + x) (n * mby + y)) n 0 t lf out = (t', lf', out')) :
    (∀ c ∈ out', c.ctx = specCtx f c) ∧
    (∀ i, t' i = if base ≤ i ∧ i < base + n then raw (n * mbx + (i - base)) (n * mby + (n - 1)) else t i) ∧
    (∀ i, lf' i = if base ≤ i ∧ i < base + n then raw (n * mbx + (n - 1)) (n * mby + (i - base)) else lf i) := by
  have := blockGrid_spec (fun x y a l => (⟨mbx, mby, kind, x, y, b2n a + b2n l⟩ : Call))
    (fun x y => raw (n * mbx + x) (n * mby + y)) base n hn
    (row := fun y => rowLoop mbx mby kind base y (fun x => raw (n * mbx + x) (n * mby + y)))
    (fun _ _ _ _ _ => rfl) (fun _ _ _ _ _ _ => rfl)
    (grid := gridLoop mbx mby kind base n (fun x y => raw (n * mbx + x) (n * mby + y)))
    (fun _ _ _ _ => rfl) (fun _ _ _ _ _ => rfl)
    (fun c => c.ctx = specCtx f c) t lf out ho
    (fun x y h1 h2 => by
      show b2n _ + b2n _ = _
      rw [ht x h1, hl y h2, above_block hn hNZ h1 h2, leftOf_block hn hNZ h1 h2, hspec, nb_eq])
  rwa [he] at this

/-- a plane's blocks inside macroblock (mbx, mby) count as empty when the macroblock is skipped;
    `hdef` is the definition of `nzY`, `nzU` or `nzV`, by `rfl` -/
theorem nz_in {f : Frame} {NZ raw : Nat → Nat → Bool} {n : Nat}
    (hdef : ∀ bx by', NZ bx by' = if f.skipped (bx / n) (by' / n) then false else raw bx by')
    (mbx mby : Nat) {x y : Nat} (hx : x < n) (hy : y < n) :
    NZ (n * mbx + x) (n * mby + y) = if f.skipped mbx mby then false else raw (n * mbx + x) (n * mby + y) := by
  rw [hdef, mul_add_div_lt mbx hx, mul_add_div_lt mby hy]

theorem upd_same (f : Flags) (k : Nat) (v : Bool) : upd f k v k = v := if_pos rfl
theorem upd_other (f : Flags) (k i : Nat) (v : Bool) (h : i ≠ k) : upd f k v i = f i := if_neg h

/-- the Y2 block of a macroblock with coefficients, if it has one: flag 0 moves on to this
    macroblock, the call gets the flags of the last macroblocks above and to the left that had one -/
theorem y2_spec (f : Frame) (mbx mby : Nat) (s : St) (hsk : ¬f.skipped mbx mby = true)
    (t0 : s.top mbx 0 = lastAbove f mbx mby) (l0 : s.left 0 = lastLeft f mby mbx)
    (ho : ∀ c ∈ s.out, c.ctx = specCtx f c) {t' lf' : Flags} {out' : List Call}
    (he : (if f.hasY2 mbx mby = true then
        (upd (s.top mbx) 0 (f.nY2 mbx mby), upd s.left 0 (f.nY2 mbx mby),
          (⟨mbx, mby, 0, 0, 0, b2n (s.top mbx 0) + b2n (s.left 0)⟩ : Call) :: s.out)
      else (s.top mbx, s.left, s.out)) = (t', lf', out')) :
    t' 0 = lastAbove f mbx (mby + 1) ∧ lf' 0 = lastLeft f mby (mbx + 1) ∧
    (∀ i, i ≠ 0 → t' i = s.top mbx i) ∧ (∀ i, i ≠ 0 → lf' i = s.left i) ∧ ∀ c ∈ out', c.ctx = specCtx f c := by
  have hy : y2val f mbx mby = f.nY2 mbx mby := if_neg hsk
  split at he <;> cases he
  · rename_i hh
    refine ⟨by rw [upd_same, lastAbove, if_pos hh, hy], by rw [upd_same, lastLeft, if_pos hh, hy],
      fun i hi => upd_other _ _ _ _ hi, fun i hi => upd_other _ _ _ _ hi, fun c hc => ?_⟩
    rcases List.mem_cons.mp hc with rfl | hc
    · show b2n (s.top mbx 0) + b2n (s.left 0) = b2n (lastAbove f mbx mby) + b2n (lastLeft f mby mbx)
      rw [t0, l0]
    · exact ho c hc
  · rename_i hh
    exact ⟨by rw [lastAbove, if_neg hh, t0], by rw [lastLeft, if_neg hh, l0], fun _ _ => rfl, fun _ _ => rfl, ho⟩

/-- the nine flags: 0 for Y2, then the runs of luma, U and V entries written by the three planes -/
theorem layout {t t' a b c : Flags}
    (h : ∀ i, t' i = if 7 ≤ i ∧ i < 7 + 2 then c i else if 5 ≤ i ∧ i < 5 + 2 then b i else
      if 1 ≤ i ∧ i < 1 + 4 then a i else t i) :
    t' 0 = t 0 ∧ (∀ x, x < 4 → t' (1 + x) = a (1 + x)) ∧
    (∀ x, x < 2 → t' (5 + x) = b (5 + x)) ∧ ∀ x, x < 2 → t' (7 + x) = c (7 + x) :=
  ⟨by rw [h, if_neg (by decide), if_neg (by decide), if_neg (by decide)],
    fun x _ => by rw [h, if_neg (by omega), if_neg (by omega), if_pos (by omega)],
    fun x _ => by rw [h, if_neg (by omega), if_pos (by omega)],
    fun x _ => by rw [h, if_pos (by omega)]⟩

theorem mbStep_inv (f : Frame) (mbx mby : Nat) (hx : mbx < f.W) (s : St) (inv : FInv f mbx mby s) :
    FInv f (mbx + 1) mby (mbStep f mbx mby s) := by
  have t0 : s.top mbx 0 = lastAbove f mbx mby := inv.y2.above hx 0 Nat.one_pos
  have l0 : s.left 0 = lastLeft f mby mbx := inv.y2.left 0 Nat.one_pos
  unfold mbStep
  by_cases hsk : f.skipped mbx mby = true
  · rw [if_pos hsk]
    have hy : y2val f mbx mby = false := if_pos hsk
    split
    rename_i ta la he
    have a : ta 0 = lastAbove f mbx (mby + 1) ∧ la 0 = lastLeft f mby (mbx + 1) := by
      split at he <;> cases he <;> rename_i hh
      · exact ⟨by rw [upd_same, lastAbove, if_pos hh, hy], by rw [upd_same, lastLeft, if_pos hh, hy]⟩
      · exact ⟨by rw [lastAbove, if_neg hh, t0], by rw [lastLeft, if_neg hh, l0]⟩
    have hin : ∀ {NZ raw : Nat → Nat → Bool} {n : Nat},
        (∀ bx by', NZ bx by' = if f.skipped (bx / n) (by' / n) then false else raw bx by') → ∀ x y, x < n → y < n →
        NZ (n * mbx + x) (n * mby + y) = false :=
      fun hdef x y h1 h2 => (nz_in hdef mbx mby h1 h2).trans (if_pos hsk)
    exact {
      y2 := inv.y2.step (fun _ _ => a.1) (fun _ _ => a.2)
      pY := inv.pY.step_plane (by decide) (hin (NZ := nzY f) (fun _ _ => rfl))
        (fun x h => if_pos (by omega)) (fun y h => if_pos (by omega))
      pU := inv.pU.step_plane (by decide) (hin (NZ := nzU f) (fun _ _ => rfl))
        (fun x h => if_pos (by omega)) (fun y h => if_pos (by omega))
      pV := inv.pV.step_plane (by decide) (hin (NZ := nzV f) (fun _ _ => rfl))
        (fun x h => if_pos (by omega)) (fun y h => if_pos (by omega))
      out := inv.out }
  · rw [if_neg hsk]
    have hin : ∀ {NZ raw : Nat → Nat → Bool} {n : Nat},
        (∀ bx by', NZ bx by' = if f.skipped (bx / n) (by' / n) then false else raw bx by') → ∀ x y, x < n → y < n →
        NZ (n * mbx + x) (n * mby + y) = raw (n * mbx + x) (n * mby + y) :=
      fun hdef x y h1 h2 => (nz_in hdef mbx mby h1 h2).trans (if_neg hsk)
    have hY := hin (NZ := nzY f) (fun _ _ => rfl)
    have hU := hin (NZ := nzU f) (fun _ _ => rfl)
    have hV := hin (NZ := nzV f) (fun _ _ => rfl)
    split
    rename_i ta la oa he0
    obtain ⟨a1, a2, a3, a4, a5⟩ := y2_spec f mbx mby s hsk t0 l0 inv.out he0
    split
    rename_i t1 l1 o1 he1
    obtain ⟨g1, g2, g3⟩ := plane_spec f mbx mby 1 1 4 (by decide) f.nY (nzY f) hY (fun _ _ _ => rfl) ta la oa a5
      (fun x h => by rw [a3 _ (by omega)]; exact inv.pY.above hx x h)
      (fun y h => by rw [a4 _ (by omega)]; exact inv.pY.left y h) he1
    split
    rename_i t2 l2 o2 he2
    obtain ⟨u1, u2, u3⟩ := plane_spec f mbx mby 2 5 2 (by decide) f.nU (nzU f) hU (fun _ _ _ => rfl) t1 l1 o1 g1
      (fun x h => by rw [g2, if_neg (by omega), a3 _ (by omega)]; exact inv.pU.above hx x h)
      (fun y h => by rw [g3, if_neg (by omega), a4 _ (by omega)]; exact inv.pU.left y h) he2
    split
    rename_i t3 l3 o3 he3
    obtain ⟨v1, v2, v3⟩ := plane_spec f mbx mby 3 7 2 (by decide) f.nV (nzV f) hV (fun _ _ _ => rfl) t2 l2 o2 u1
      (fun x h => by rw [u2, if_neg (by omega), g2, if_neg (by omega), a3 _ (by omega)]; exact inv.pV.above hx x h)
      (fun y h => by rw [u3, if_neg (by omega), g3, if_neg (by omega), a4 _ (by omega)]; exact inv.pV.left y h) he3
    obtain ⟨T0, TY, TU, TV⟩ := layout (show ∀ i, t3 i = _ from fun i => by rw [v2, u2, g2])
    obtain ⟨L0, LY, LU, LV⟩ := layout (show ∀ i, l3 i = _ from fun i => by rw [v3, u3, g3])
    exact {
      y2 := inv.y2.step (l' := l3) (fun _ _ => T0.trans a1) (fun _ _ => L0.trans a2)
      pY := inv.pY.step_plane (by decide) hY (l' := l3)
        (fun x h => by rw [TY x h, Nat.add_sub_cancel_left]) (fun y h => by rw [LY y h, Nat.add_sub_cancel_left])
      pU := inv.pU.step_plane (by decide) hU (l' := l3)
        (fun x h => by rw [TU x h, Nat.add_sub_cancel_left]) (fun y h => by rw [LU y h, Nat.add_sub_cancel_left])
      pV := inv.pV.step_plane (by decide) hV (l' := l3)
        (fun x h => by rw [TV x h, Nat.add_sub_cancel_left]) (fun y h => by rw [LV y h, Nat.add_sub_cancel_left])
      out := v1 }

/-- every `read_coefficients` call of a frame gets the context the RFC defines from the neighbouring blocks -/
theorem run_spec (f : Frame) : ∀ c ∈ run f, c.ctx = specCtx f c := fun c hc =>
  (scan_inv (Inv := FInv f) (reset := fun s : St => { s with left := fun _ => false })
    (fun _ _ _ => rfl) (fun _ _ _ _ => rfl) (fun _ _ => rfl) (fun _ _ _ => rfl)
    (fun mbx mby s h => mbStep_inv f mbx mby h s)
    (fun _ _ h => ⟨h.y2.next_row (fun _ => rfl), h.pY.next_row (fun _ => rfl), h.pU.next_row (fun _ => rfl),
      h.pV.next_row (fun _ => rfl), h.out⟩)
    f.H { top := fun _ _ => false, left := fun _ => false, out := [] }
    ⟨Tracks.init (fun _ _ => rfl) (fun _ => rfl), Tracks.init (fun _ _ => rfl) (fun _ => rfl),
      Tracks.init (fun _ _ => rfl) (fun _ => rfl), Tracks.init (fun _ _ => rfl) (fun _ => rfl), fun _ hc => (List.not_mem_nil hc).elim⟩).out
    c (List.mem_reverse.mp hc)

end Vp8Ctx
