import WebpVerif.Model.Enc
import WebpVerif.Model.BitReader
import Mathlib.Tactic.Ring

/-!
The encoder's `BitWriter` (64-bit buffer, flushed 8 bytes at a time): the bytes it produces are
the little-endian bytes of the number whose binary digits are the written fields, LSB first - the
number the decoder's bit reader takes its windows from.
-/
namespace BitWriterProof
open Enc

/-- the number a byte list denotes, least significant byte first (= `BitReader.le64`) -/
def leVal (bs : List Nat) : Nat := BitReader.le64 bs

theorem leVal_nil : leVal [] = 0 := rfl
theorem leVal_cons (b : Nat) (bs : List Nat) : leVal (b :: bs) = b + 256 * leVal bs := rfl

theorem leVal_append (a b : List Nat) : leVal (a ++ b) = leVal a + 256 ^ a.length * leVal b := by
  induction a with
  | nil => simp [leVal_nil]
  | cons x a ih => rw [List.cons_append, leVal_cons, leVal_cons, ih, List.length_cons, Nat.pow_succ]; ring

theorem leVal_digits (v : Nat) : ∀ k, leVal ((List.range k).map fun i => v / 256 ^ i % 256) = v % 256 ^ k := by
  intro k
  induction k with
  | zero => rw [Nat.pow_zero, Nat.mod_one]; rfl
  | succ k ih =>
    rw [List.range_succ, List.map_append, leVal_append, ih, List.length_map, List.length_range, Nat.mod_pow_succ]
    rfl

theorem leVal_take_le8 (v k : Nat) (hk : k ≤ 8) : leVal ((le8 v).take k) = v % 256 ^ k := by
  unfold le8
  rw [← List.map_take, List.take_range, Nat.min_eq_left hk, leVal_digits]

theorem le8_length (v : Nat) : (le8 v).length = 8 := by simp [le8]

theorem le8_lt (v : Nat) : ∀ b ∈ le8 v, b < 256 := by
  intro b hb
  obtain ⟨k, _, rfl⟩ := List.mem_map.mp hb
  exact Nat.mod_lt _ (by decide)

theorem foldl_push_toList (l : List Nat) (a : Array Nat) : (l.foldl Array.push a).toList = a.toList ++ l := by
  induction l generalizing a with
  | nil => simp
  | cons x l ih => rw [List.foldl_cons, ih]; simp

theorem foldl_push_size (l : List Nat) (a : Array Nat) : (l.foldl Array.push a).size = a.size + l.length := by
  rw [← Array.length_toList, foldl_push_toList, List.length_append, Array.length_toList]

theorem push_le8 (out : Array Nat) (v k : Nat) (hk : k ≤ 8) (hb : ∀ b ∈ out.toList, b < 256) :
    leVal (((le8 v).take k).foldl Array.push out).toList = leVal out.toList + 256 ^ out.size * (v % 256 ^ k) ∧
    (((le8 v).take k).foldl Array.push out).size = out.size + k ∧
    ∀ b ∈ (((le8 v).take k).foldl Array.push out).toList, b < 256 := by
  rw [foldl_push_size, foldl_push_toList, leVal_append, leVal_take_le8 v k hk, List.length_take, le8_length,
    Nat.min_eq_left hk, Array.length_toList]
  refine ⟨rfl, rfl, fun b hm => ?_⟩
  rcases List.mem_append.mp hm with h | h
  · exact hb b h
  · exact le8_lt v b (List.mem_of_mem_take h)

theorem or_shift_eq {a n : Nat} (b : Nat) (ha : a < 2 ^ n) : a ||| (b <<< n) = a + b * 2 ^ n := by
  rw [Nat.or_comm, ← Nat.shiftLeft_add_eq_or_of_lt ha, Nat.shiftLeft_eq, Nat.add_comm]

theorem add_mul_lt {a b n m : Nat} (ha : a < 2 ^ n) (hb : b < 2 ^ m) : a + b * 2 ^ n < 2 ^ (n + m) := by
  have : (b + 1) * 2 ^ n ≤ 2 ^ m * 2 ^ n := Nat.mul_le_mul_right _ hb
  rw [Nat.pow_add, Nat.mul_comm (2 ^ n)]
  rw [Nat.add_mul] at this
  omega

/-- the writer holds the stream: the flushed bytes are its low part, the buffer its top `nbits` bits -/
structure WInv (w : BW) (V T : Nat) : Prop where
  hn : w.nbits < 64
  hb : w.buffer < 2 ^ w.nbits
  hv : leVal w.out.toList + 256 ^ w.out.size * w.buffer = V
  ht : T = 8 * w.out.size + w.nbits
  bytes : ∀ b ∈ w.out.toList, b < 256

theorem write_inv (w : BW) (V T bits n : Nat) (inv : WInv w V T) (hn : n ≤ 64) (hbits : bits < 2 ^ n) :
    WInv (w.write bits n) (V + bits * 2 ^ T) (T + n) := by
  have h1 := inv.hn
  have h4 := inv.ht
  -- `B`, the buffer with the new field on top of it
  have hB := add_mul_lt inv.hb hbits
  have hV : V + bits * 2 ^ T = leVal w.out.toList + 256 ^ w.out.size * (w.buffer + bits * 2 ^ w.nbits) := by
    rw [← inv.hv, h4, Nat.pow_add, Nat.pow_mul]; ring
  rw [hV]
  unfold BW.write
  simp only [or_shift_eq bits inv.hb]
  by_cases hge : w.nbits + n ≥ 64
  · -- the low `s` bits of the field fill the word, which leaves; its high `k` bits stay (`bits >> s`,
    -- by `checked_shr` 0 if `s = 64`)
    obtain ⟨s, hs⟩ := Nat.exists_eq_add_of_le (Nat.le_of_lt h1)
    obtain ⟨k, rfl⟩ := Nat.exists_eq_add_of_le (Nat.le_of_add_le_add_left (hs ▸ hge))
    rw [if_pos hge, ← Nat.add_assoc, ← hs, Nat.add_sub_cancel_left, Nat.add_sub_cancel]
    have hkeep : (if s ≥ 64 then 0 else bits >>> s) = (w.buffer + bits * 2 ^ w.nbits) / 2 ^ 64 := by
      rw [show (2 : Nat) ^ 64 = 2 ^ w.nbits * 2 ^ s by rw [hs, Nat.pow_add], ← Nat.div_div_eq_div_mul,
        Nat.add_mul_div_right _ _ (Nat.two_pow_pos _), Nat.div_eq_of_lt inv.hb, Nat.zero_add, ← Nat.shiftRight_eq_div_pow]
      split
      · rename_i h
        exact (Nat.shiftRight_eq_zero _ _ (Nat.lt_of_lt_of_le hbits (Nat.pow_le_pow_right (by decide) (Nat.le_trans hn h)))).symm
      · rfl
    rw [hkeep]
    rw [← Nat.add_assoc, ← hs] at hB
    generalize w.buffer + bits * 2 ^ w.nbits = B at hB ⊢
    obtain ⟨p1, p2, p3⟩ := push_le8 w.out (B % 2 ^ 64) 8 (Nat.le_refl 8) inv.bytes
    rw [List.take_of_length_le (by rw [le8_length])] at p1 p2 p3
    rw [show (256 : Nat) ^ 8 = 2 ^ 64 from rfl, Nat.mod_mod] at p1
    refine ⟨Nat.lt_of_lt_of_le (Nat.lt_add_of_pos_left (Nat.lt_add_right_iff_pos.mp (hs ▸ h1))) hn, ?_, ?_, by simp only; omega, p3⟩
    · exact Nat.div_lt_of_lt_mul (by rw [← Nat.pow_add]; exact hB)
    · simp only
      rw [p1, p2, Nat.pow_add, Nat.add_assoc, Nat.mul_assoc, ← Nat.mul_add, show (256 : Nat) ^ 8 = 2 ^ 64 from rfl,
        Nat.mod_add_div]
  · rw [if_neg hge, Nat.mod_eq_of_lt (Nat.lt_of_lt_of_le hB (Nat.pow_le_pow_right (by decide) (Nat.le_of_not_le hge)))]
    exact ⟨Nat.lt_of_not_le hge, hB, rfl, by rw [h4, Nat.add_assoc], inv.bytes⟩

/-- the stream value and bit count after a sequence of `write_bits(bits, n)` calls -/
def streamStep (r : Nat × Nat) (w : Nat × Nat) : Nat × Nat := (r.1 + w.1 * 2 ^ r.2, r.2 + w.2)
def streamOf (ws : List (Nat × Nat)) : Nat × Nat := ws.foldl streamStep (0, 0)

def Valid (ws : List (Nat × Nat)) : Prop := ∀ w ∈ ws, w.2 ≤ 64 ∧ w.1 < 2 ^ w.2

theorem writes_inv (ws : List (Nat × Nat)) (hv : Valid ws) : ∀ (w : BW) (V T : Nat), WInv w V T →
    WInv (ws.foldl (fun w x => w.write x.1 x.2) w) (ws.foldl streamStep (V, T)).1 (ws.foldl streamStep (V, T)).2 := by
  induction ws with
  | nil => intro w V T h; exact h
  | cons x ws ih =>
    intro w V T h
    have hx := hv x List.mem_cons_self
    exact ih (fun y hy => hv y (List.mem_cons_of_mem _ hy)) _ _ _ (write_inv w V T x.1 x.2 h hx.1 hx.2)

theorem empty_inv : WInv BW.empty 0 0 := ⟨by decide, by decide, rfl, rfl, fun _ h => by cases h⟩

/-- `flush()` first pads with zero bits to the next byte boundary -/
theorem pad_inv (w : BW) (V T : Nat) (inv : WInv w V T) :
    WInv (if w.nbits % 8 ≠ 0 then w.write 0 (8 - w.nbits % 8) else w) V (8 * ((T + 7) / 8)) := by
  rw [show w.nbits % 8 = T % 8 by rw [inv.ht, Nat.mul_add_mod]]
  split
  · have hpad := write_inv w V T 0 (8 - T % 8) inv (Nat.le_trans (Nat.sub_le ..) (by decide)) (Nat.two_pow_pos _)
    rwa [Nat.zero_mul, Nat.add_zero, show T + (8 - T % 8) = 8 * ((T + 7) / 8) by omega] at hpad
  · rwa [show 8 * ((T + 7) / 8) = T by omega]

/-- on a byte boundary the buffer holds `nbits / 8` whole bytes, which `flush()` appends -/
theorem emit_aligned (w : BW) (V k : Nat) (inv : WInv w V (8 * k)) :
    leVal (((le8 w.buffer).take (w.nbits / 8)).foldl Array.push w.out).toList = V ∧
    (((le8 w.buffer).take (w.nbits / 8)).foldl Array.push w.out).size = k ∧
    ∀ b ∈ (((le8 w.buffer).take (w.nbits / 8)).foldl Array.push w.out).toList, b < 256 := by
  obtain ⟨h1, h2, h3, h4, h5⟩ := inv
  obtain ⟨m, rfl⟩ := Nat.exists_eq_add_of_le (Nat.le_of_mul_le_mul_left (Nat.le.intro h4.symm) (by decide))
  have hm : w.nbits = 8 * m := Nat.add_left_cancel (h4.symm.trans (Nat.mul_add ..))
  rw [hm, Nat.mul_div_cancel_left m (by decide)]
  rw [hm, Nat.pow_mul] at h2
  obtain ⟨p1, p2, p3⟩ := push_le8 w.out w.buffer m (by omega) h5
  rw [Nat.mod_eq_of_lt (show w.buffer < 256 ^ m from h2), h3] at p1
  exact ⟨p1, p2, p3⟩

theorem flush_spec (w : BW) (V T : Nat) (inv : WInv w V T) :
    leVal w.flush.toList = V ∧ w.flush.size = (T + 7) / 8 ∧ ∀ b ∈ w.flush.toList, b < 256 :=
  emit_aligned _ V _ (pad_inv w V T inv)

theorem stream_shift (b : List (Nat × Nat)) : ∀ (V T : Nat),
    b.foldl streamStep (V, T) = (V + (streamOf b).1 * 2 ^ T, T + (streamOf b).2) := by
  unfold streamOf
  induction b with
  | nil => intro V T; simp
  | cons x b ih =>
    intro V T
    rw [List.foldl_cons, List.foldl_cons, ih, ih (streamStep (0, 0) x).1]
    simp only [streamStep, Nat.zero_add, Nat.pow_zero, Nat.mul_one, Nat.pow_add]
    refine Prod.ext ?_ ?_ <;> simp only <;> ring

theorem stream_cons (x : Nat × Nat) (ws : List (Nat × Nat)) :
    streamOf (x :: ws) = (x.1 + (streamOf ws).1 * 2 ^ x.2, x.2 + (streamOf ws).2) := by
  have := stream_shift ws x.1 x.2
  unfold streamOf at this ⊢
  rw [List.foldl_cons, ← this]
  simp [streamStep]

theorem stream_append (a b : List (Nat × Nat)) :
    streamOf (a ++ b) = ((streamOf a).1 + (streamOf b).1 * 2 ^ (streamOf a).2, (streamOf a).2 + (streamOf b).2) := by
  rw [← stream_shift b]
  exact List.foldl_append ..

theorem stream_lt (a : List (Nat × Nat)) (hv : Valid a) : (streamOf a).1 < 2 ^ (streamOf a).2 := by
  induction a with
  | nil => exact Nat.one_pos
  | cons x a ih =>
    rw [stream_cons]
    exact add_mul_lt (hv x List.mem_cons_self).2 (ih fun y hy => hv y (List.mem_cons_of_mem _ hy))

/-- every written field is readable where it was written -/
theorem field_window (pre post : List (Nat × Nat)) (bits n : Nat) (hv : Valid (pre ++ (bits, n) :: post)) :
    ((streamOf (pre ++ (bits, n) :: post)).1 >>> (streamOf pre).2) % 2 ^ n = bits := by
  have hlt := stream_lt pre fun y hy => hv y (by simp [hy])
  have hx : bits < 2 ^ n := (hv (bits, n) (by simp)).2
  rw [stream_append, stream_cons, Nat.shiftRight_eq_div_pow, Nat.mul_comm, Nat.add_mul_div_left _ _ (Nat.two_pow_pos _),
    Nat.div_eq_of_lt hlt, Nat.zero_add, Nat.add_mul_mod_self_right, Nat.mod_eq_of_lt hx]

/-- the flushed output of a write sequence (`Enc.writeFields` from the empty writer, then `flush`) -/
def output (ws : List (Nat × Nat)) : Array Nat := (ws.foldl (fun w x => w.write x.1 x.2) BW.empty).flush

theorem output_spec (ws : List (Nat × Nat)) (hv : Valid ws) :
    leVal (output ws).toList = (streamOf ws).1 ∧ (output ws).size = ((streamOf ws).2 + 7) / 8 ∧
      ∀ b ∈ (output ws).toList, b < 256 :=
  flush_spec _ _ _ (writes_inv ws hv BW.empty 0 0 empty_inv)

end BitWriterProof
