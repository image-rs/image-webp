import WebpVerif.Lemmas.LPred

/-!
Any sequence of the predictor, colour and subtract-green drivers on one buffer computes the specification's
`applyT`: each driver leaves a byte buffer of the size it found, so the three theorems chain.
-/
namespace LTrProof
open LTr LK

theorem bytes_of_lt (a : Array Nat) (h : ∀ j, j < a.size → a.getD j 0 < 256) : Bytes a := fun j => by
  by_cases hj : j < a.size
  · exact h j hj
  · rw [getD_of_size_le a j (Nat.le_of_not_lt hj)]; decide

theorem bytes_applyPredictor (a d : Array Nat) (w h bits : Nat) (hw : 0 < w) (hh : 0 < h) (hs : a.size = 4 * (w * h))
    (hb : Bytes a) (hd : Bytes d) (hd4 : d.size % 4 = 0) (hmode : ∀ k, d.getD (4 * k + 1) 0 < 14) :
    (applyPredictor w h bits d a).size = a.size ∧ Bytes (applyPredictor w h bits d a) := by
  obtain ⟨hsz, hdone, _⟩ := applyPredictor_final a d w h bits _ hw hh hs hb (osol_sol a d w h bits hw hs hd hd4) hmode
  refine ⟨hsz, bytes_of_lt _ fun j hj => ?_⟩
  -- byte `j` is byte `j % 4` of the finished pixel `j / 4`
  rw [← Nat.div_add_mod j 4, ← getD_px _ _ _ (Nat.mod_lt j (by decide)), hdone (j / 4) (by omega) trivial]
  exact bytesOf_lt _ _

theorem colorAt_lt (w bits : Nat) (d a : Array Nat) (hb : Bytes a) (i : Nat) : colorAt w bits d a i < 256 := by
  unfold colorAt
  simp only []
  by_cases h0 : i % 4 = 0
  · rw [if_pos h0]; exact Nat.mod_lt _ (by decide)
  · rw [if_neg h0]
    by_cases h2 : i % 4 = 2
    · rw [if_pos h2]; exact Nat.mod_lt _ (by decide)
    · rw [if_neg h2]; exact hb i

theorem bytes_applyColor (w bits : Nat) (d a : Array Nat) (hb : Bytes a) : Bytes (applyColor w bits d a) := by
  refine bytes_of_lt _ fun j hj => ?_
  rw [size_applyColor] at hj
  unfold applyColor
  rw [getD_ofFn _ _ _ hj]
  show (if j / (4 * w) * (4 * w) + 4 * w ≤ a.size then colorAt w bits d a j else a.getD j 0) < 256
  by_cases h : j / (4 * w) * (4 * w) + 4 * w ≤ a.size
  · rw [if_pos h]; exact colorAt_lt w bits d a hb j
  · rw [if_neg h]; exact hb j

theorem bytes_applySubGreen (a : Array Nat) (hb : Bytes a) : Bytes (applySubGreen a) := by
  refine bytes_of_lt _ fun j hj => ?_
  rw [size_applySubGreen] at hj
  rw [getD_applySubGreen _ _ hj]
  unfold subGreenAt addGreen
  by_cases h : (j % 4 = 0 ∨ j % 4 = 2) ∧ j / 4 * 4 + 4 ≤ a.size
  · rw [if_pos h]; exact Nat.mod_lt _ (by decide)
  · rw [if_neg h]; exact hb j

/-- a transform on the byte buffer, the counterpart of the specification's `VP8LP.T` (`specT`): which
    driver runs, with its `size_bits` and the bytes of its sub-image -/
inductive TB where
  | predictor (bits : Nat) (d : Array Nat)
  | color (bits : Nat) (d : Array Nat)
  | subGreen

/-- the drivers applied one after the other on the same buffer, as `decode_frame` does (in the
    order in which the transforms are inverted) -/
def applyTB (w h : Nat) : List TB → Array Nat → Array Nat
  | [], a => a
  | .predictor bits d :: ts, a => applyTB w h ts (applyPredictor w h bits d a)
  | .color bits d :: ts, a => applyTB w h ts (applyColor w bits d a)
  | .subGreen :: ts, a => applyTB w h ts (applySubGreen a)

def specT : TB → VP8LP.T
  | .predictor bits d => .predictor bits (pixels d).toArray
  | .color bits d => .color bits (pixels d).toArray
  | .subGreen => .subtractGreen

def GoodT : TB → Prop
  | .predictor _ d => Bytes d ∧ d.size % 4 = 0 ∧ ∀ k, d.getD (4 * k + 1) 0 < 14
  | .color _ d => Bytes d ∧ d.size % 4 = 0
  | .subGreen => True

theorem drivers_compose (w h : Nat) (hw : 0 < w) (hh : 0 < h) :
    ∀ (ts : List TB) (a : Array Nat), (∀ t, t ∈ ts → GoodT t) → Bytes a → a.size = 4 * (w * h) →
      pixels (applyTB w h ts a) = VP8LP.applyT w h (ts.map specT) w (pixels a) := by
  intro ts
  induction ts with
  | nil => intro a _ _ _; rfl
  | cons t ts ih =>
    intro a hg hb hs
    have hgt := hg t (List.mem_cons_self)
    have hg' : ∀ t', t' ∈ ts → GoodT t' := fun t' h' => hg t' (List.mem_cons_of_mem _ h')
    cases t with
    | predictor bits d =>
      obtain ⟨hd, hd4, hmode⟩ := hgt
      show pixels (applyTB w h ts (applyPredictor w h bits d a)) =
        VP8LP.applyT w h (ts.map specT) w (VP8LP.invPredictor bits (pixels d).toArray w (pixels a) 0 [])
      obtain ⟨hsz', hb'⟩ := bytes_applyPredictor a d w h bits hw hh hs hb hd hd4 hmode
      rw [← predictor_is_spec a d w h bits hw hh hs hb hd hd4 hmode]
      exact ih _ hg' hb' (hsz'.trans hs)
    | color bits d =>
      obtain ⟨hd, hd4⟩ := hgt
      show pixels (applyTB w h ts (applyColor w bits d a)) =
        VP8LP.applyT w h (ts.map specT) w (VP8LP.invColor bits (pixels d).toArray w (pixels a) 0)
      rw [← color_is_spec w h bits d a hb hd hd4 (by rw [hs, Nat.mul_assoc]) hw]
      exact ih _ hg' (bytes_applyColor w bits d a hb) ((size_applyColor w bits d a).trans hs)
    | subGreen =>
      show pixels (applyTB w h ts (applySubGreen a)) = VP8LP.applyT w h (ts.map specT) w ((pixels a).map VP8LP.invSubGreenPx)
      rw [← subGreen_is_spec a hb]
      exact ih _ hg' (bytes_applySubGreen a hb) ((size_applySubGreen a).trans hs)

end LTrProof
