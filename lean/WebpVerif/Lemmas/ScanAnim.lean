import WebpVerif.Lemmas.Scan

/-!
The VP8X scan loop on any sequence of chunks and ANMF frames - frame count, loop duration (sum
of the 24-bit durations), lossy-ness, first occurrences -, `read_data` on an extended file up to
the end of that loop, and `WebPDecoder::new` on whole animated files.
-/
namespace ScanProof
open Container EncContainer

/-- an ANMF payload: 12 bytes of geometry, 4 bytes duration+flags, the first sub-chunk's header, the rest -/
structure FrameBytes where
  geo : List Nat
  dur4 : List Nat
  sub : List Nat
  ssz : List Nat
  tail : List Nat

def FrameBytes.payload (f : FrameBytes) : List Nat := f.geo ++ (f.dur4 ++ (f.sub ++ (f.ssz ++ f.tail)))
def FrameBytes.Ok (f : FrameBytes) : Prop :=
  f.geo.length = 12 ∧ f.dur4.length = 4 ∧ f.sub.length = 4 ∧ f.ssz.length = 4 ∧ (∀ b ∈ f.dur4, b < 256) ∧
  f.payload.length + 1 < 2 ^ 32

/-- a top-level chunk of an animated file: an ordinary chunk or an ANMF frame -/
inductive Item where
  | plain (c : List Nat × List Nat)
  | frame (f : FrameBytes)

def Item.chunk : Item → List Nat × List Nat
  | .plain c => c
  | .frame f => (ANMF, f.payload)

def Item.Ok : Item → Prop
  | .plain c => EncContainer.ChunkOk c ∧ c.1 ≠ ANMF
  | .frame f => f.Ok

def chunksOf (items : List Item) : List (List Nat × List Nat) := items.map Item.chunk

def numFrames : List Item → Nat
  | [] => 0
  | .plain _ :: r => numFrames r
  | .frame _ :: r => numFrames r + 1

def durSum : List Item → Nat
  | [] => 0
  | .plain _ :: r => durSum r
  | .frame f :: r => le f.dur4 % 2 ^ 24 + durSum r

def anyLossy : List Item → Bool
  | [] => false
  | .plain _ :: r => anyLossy r
  | .frame f :: r => (f.sub == VP8 || f.sub == ALPH) || anyLossy r

theorem payload_length (f : FrameBytes) (hok : f.Ok) : f.payload.length = 24 + f.tail.length := by
  obtain ⟨h12, h4, hs4, hz4, _⟩ := hok
  simp only [FrameBytes.payload, List.length_append, h12, h4, hs4, hz4]
  omega

theorem item_chunkOk (it : Item) (h : it.Ok) : ChunkOk it.chunk := by
  cases it with
  | plain c => exact h.1
  | frame f => exact ⟨fourcc_len.2.2.2.2.2, h.2.2.2.2.2⟩

theorem chunksOf_ok (items : List Item) (hall : ∀ it ∈ items, it.Ok) : ∀ c ∈ chunksOf items, ChunkOk c := by
  intro c hc
  obtain ⟨it, hit, rfl⟩ := List.mem_map.mp hc
  exact item_chunkOk it (hall it hit)

/-- a chunk named ANMF in an item list is a frame, so its payload has room for 24 header bytes -/
theorem anmf_length (items : List Item) (hall : ∀ it ∈ items, it.Ok) (c : List Nat × List Nat)
    (hc : c ∈ chunksOf items) (hname : c.1 = ANMF) : 24 ≤ c.2.length := by
  obtain ⟨it, hit, rfl⟩ := List.mem_map.mp hc
  cases it with
  | plain c => exact absurd hname (hall _ hit).2
  | frame f => rw [show (Item.frame f).chunk.2 = f.payload from rfl, payload_length f (hall _ hit)]; exact Nat.le_add_right ..

/-- the scan state after a top-level chunk: its range registered, and for a frame the counters updated -/
def after (s : Scan) : Item → Scan
  | .plain c => { s with position := s.position + 8 + (c.2.length + c.2.length % 2), chunks := reg s.chunks s.position c }
  | .frame f =>
    { position := s.position + 8 + (f.payload.length + f.payload.length % 2),
      chunks := reg s.chunks s.position (ANMF, f.payload),
      numFrames := s.numFrames + 1,
      loopDuration := (s.loopDuration + le f.dur4 % 2 ^ 24) % 2 ^ 64,
      isLossy := s.isLossy || (f.sub == VP8 || f.sub == ALPH) }

theorem scanStep_item {F rest : List Nat} (it : Item) (hok : it.Ok) (s : Scan)
    (h : At F s.position (chunkBytes it.chunk.1 it.chunk.2 ++ rest)) :
    scanStep s ⟨F, s.position⟩ = .ok (some (after s it), ⟨F, (after s it).position⟩) ∧
    At F (after s it).position rest := by
  cases it with
  | plain c =>
    obtain ⟨e, _, hat⟩ := at_chunk c hok.1 h
    refine ⟨?_, hat⟩
    rw [scanStep, e]
    simp only
    rw [beq_false_of_ne hok.2, seekRel_to _ _ _ (Int.natCast_add ..).symm]
    rfl
  | frame f =>
    obtain ⟨e, h8, hat⟩ := at_chunk (ANMF, f.payload) (item_chunkOk _ hok) h
    refine ⟨?_, hat⟩
    have hlen := payload_length f hok
    obtain ⟨h12, h4, hs4, hz4, _⟩ := hok
    -- the reads of the ANMF arm: 12 bytes skipped, the duration word, the sub-chunk header
    simp only [FrameBytes.payload, List.append_assoc] at h8
    obtain ⟨_, h20⟩ := at_read h8 h12
    obtain ⟨e1, h24⟩ := at_readLE h20 h4
    obtain ⟨e2, _⟩ := at_header h24 hs4 hz4
    -- the final seek lands on the end of the chunk from wherever inside the frame it starts
    have hend : ∀ q k n : Nat, ((q + k : Nat) : Int) + ((n : Int) - k) = ((q + n : Nat) : Int) := by
      intro q k n; omega
    rw [scanStep, e]
    simp only [beq_self_eq_true, if_true, if_neg (Nat.not_lt.mpr (hlen ▸ Nat.le_add_right 24 _)),
      seekRel_to ⟨F, s.position + 8⟩ 12 (s.position + 8 + 12) rfl, e1]
    obtain ⟨pos, chunks, nf, ld, _ | _⟩ := s
    · simp only [Bool.not_false, if_true, e2]
      rw [seekRel_to _ _ _ (hend (pos + 8) 24 _)]
      rfl
    · simp only [Bool.not_true, Bool.false_eq_true, if_false]
      rw [seekRel_to _ _ _ (hend (pos + 8) 16 _)]
      rfl

theorem scanLoop_items (maxPos : Nat) {F : List Nat} (hmax : F.length < maxPos) :
    ∀ (items : List Item) (s : Scan) (fuel : Nat), (∀ it ∈ items, it.Ok) → items.length < fuel →
    At F s.position (layout (chunksOf items)) →
    scanLoop maxPos fuel s ⟨F, s.position⟩ = .ok (items.foldl after s, ⟨F, (items.foldl after s).position⟩) := by
  intro items
  induction items with
  | nil =>
    intro s fuel _ hfuel hat
    obtain ⟨fuel, rfl⟩ := Nat.exists_eq_add_one_of_ne_zero (Nat.ne_zero_of_lt hfuel)
    rw [scanLoop]
    dsimp only
    rw [if_pos (Nat.lt_of_le_of_lt (at_le hat) hmax), scanStep, at_eof hat]
    rfl
  | cons it rest ih =>
    intro s fuel hall hfuel hat
    obtain ⟨fuel, rfl⟩ := Nat.exists_eq_add_one_of_ne_zero (Nat.ne_zero_of_lt hfuel)
    rw [chunksOf, List.map_cons, layout_cons] at hat
    obtain ⟨e, hat'⟩ := scanStep_item it (hall it List.mem_cons_self) s hat
    rw [scanLoop]
    dsimp only
    rw [if_pos (Nat.lt_of_le_of_lt (at_le hat) hmax), e]
    exact ih _ fuel (fun c' hc' => hall c' (List.mem_cons_of_mem _ hc')) (Nat.lt_of_succ_lt_succ hfuel) hat'

theorem after_items : ∀ (items : List Item) (s : Scan), s.loopDuration < 2 ^ 64 →
    (items.foldl after s).numFrames = s.numFrames + numFrames items ∧
    (items.foldl after s).loopDuration = (s.loopDuration + durSum items) % 2 ^ 64 ∧
    (items.foldl after s).isLossy = (s.isLossy || anyLossy items) ∧
    ∀ k ∈ known, (items.foldl after s).chunks.get? k =
      (s.chunks.get? k).orElse (fun _ => firstRange k s.position (chunksOf items)) := by
  intro items
  induction items with
  | nil =>
    intro s hld
    refine ⟨rfl, (Nat.mod_eq_of_lt hld).symm, (Bool.or_false _).symm, fun k _ => ?_⟩
    show s.chunks.get? k = _
    cases s.chunks.get? k <;> rfl
  | cons it rest ih =>
    intro s hld
    rw [List.foldl_cons]
    cases it with
    | plain c =>
      obtain ⟨e1, e2, e3, e4⟩ := ih (after s (.plain c)) hld
      exact ⟨e1, e2, e3, fun k hk => (e4 k hk).trans (reg_get s.chunks s.position c (chunksOf rest) k hk)⟩
    | frame f =>
      obtain ⟨e1, e2, e3, e4⟩ := ih (after s (.frame f)) (Nat.mod_lt _ (Nat.two_pow_pos 64))
      rw [e1, e2, e3, numFrames, durSum, anyLossy, ← Nat.add_assoc s.loopDuration]
      exact ⟨Nat.add_right_comm .., Nat.mod_add_mod .., Bool.or_assoc ..,
        fun k hk => (e4 k hk).trans (reg_get s.chunks s.position (ANMF, f.payload) (chunksOf rest) k hk)⟩

theorem plain_items (cs : List (List Nat × List Nat)) :
    chunksOf (cs.map .plain) = cs ∧ numFrames (cs.map .plain) = 0 ∧ durSum (cs.map .plain) = 0 ∧
    anyLossy (cs.map .plain) = false := by
  induction cs with
  | nil => exact ⟨rfl, rfl, rfl, rfl⟩
  | cons c cs ih =>
    obtain ⟨e1, e2, e3, e4⟩ := ih
    exact ⟨by rw [List.map_cons, chunksOf, List.map_cons, ← chunksOf, e1]; rfl, e2, e3, e4⟩

theorem plain_ok (cs : List (List Nat × List Nat)) (hall : ∀ c ∈ cs, ChunkOk c ∧ c.1 ≠ ANMF) :
    ∀ it ∈ cs.map Item.plain, it.Ok := by
  intro it hit
  obtain ⟨c, hc, rfl⟩ := List.mem_map.mp hit
  exact hall c hc

theorem frames_anmf : ∀ (items : List Item) (p : Nat), 0 < numFrames items →
    (firstRange ANMF p (chunksOf items)).isSome = true := by
  intro items
  induction items with
  | nil => intro p h; cases h
  | cons it rest ih =>
    intro p h
    rw [chunksOf, List.map_cons, firstRange]
    split
    · rfl
    · next hne =>
      cases it with
      | plain c => exact ih _ h
      | frame f => exact absurd rfl hne

/-- a chunk header read anywhere inside data of which nothing is known -/
theorem header_explicit (F : List Nat) (p : Nat) (h : p + 8 ≤ F.length) :
    readChunkHeader { data := F, pos := p } =
      .ok (((F.drop p).take 4, le ((F.drop (p + 4)).take 4),
            min (le ((F.drop (p + 4)).take 4) + le ((F.drop (p + 4)).take 4) % 2) (2 ^ 32 - 1)), { data := F, pos := p + 4 + 4 }) := by
  unfold readChunkHeader readLE readExact
  simp only
  rw [if_pos (Nat.le_trans (Nat.add_le_add_left (by decide : 4 ≤ 8) p) h)]
  simp only
  rw [if_pos h]

theorem header_any (F : List Nat) (p : Nat) (h : p + 8 ≤ F.length) :
    ∃ cc sz rd, readChunkHeader { data := F, pos := p } = .ok ((cc, sz, rd), { data := F, pos := p + 8 }) :=
  ⟨_, _, _, header_explicit F p h⟩

/-- the (at most two) sub-chunk names `read_data` registers for the first frame, whose ANMF
    payload is `D[s0, e0)`: the name at offset 16, and - if the frame has room for another
    header - the name found after the first sub-chunk's (rounded) payload -/
def frameSubNames (D : List Nat) (s0 e0 : Nat) : List (List Nat) :=
  let sz1 := le ((D.drop (s0 + 16 + 4)).take 4)
  let p2 := s0 + 16 + 8 + min (sz1 + sz1 % 2) (2 ^ 32 - 1)
  if p2 + 8 > e0 then [(D.drop (s0 + 16)).take 4] else [(D.drop (s0 + 16)).take 4, (D.drop p2).take 4]

theorem firstFrame_ok (D : List Nat) (s0 e0 p : Nat) (ch : Chunks) (h1 : s0 + 24 ≤ e0) (h2 : e0 ≤ D.length) :
    ∃ ch' r', firstFrameSubchunks s0 e0 ch { data := D, pos := p } = .ok (ch', r') ∧
      ∀ k, (∀ n ∈ frameSubNames D s0 e0, n ≠ k) → ch'.get? k = ch.get? k := by
  unfold firstFrameSubchunks frameSubNames
  simp only
  rw [header_explicit D (s0 + 16) (Nat.le_trans h1 h2)]
  simp only
  -- one test decides both whether the code reads a second header and whether the list names one
  split
  · exact ⟨_, _, rfl, fun k hk => get_orInsert_other _ _ _ _ (hk _ List.mem_cons_self)⟩
  · next hroom =>
    rw [header_explicit D _ (Nat.le_trans (Nat.not_lt.mp hroom) h2)]
    exact ⟨_, _, rfl, fun k hk => by
      rw [get_orInsert_other _ _ _ _ (hk _ (List.mem_cons_of_mem _ List.mem_cons_self)),
        get_orInsert_other _ _ _ _ (hk _ List.mem_cons_self)]⟩

/-- a feature bit of the VP8X flags is only set when its chunk is there -/
theorem promised (bit : Nat) (present : Bool) (h : bit = 1 → present = true) : (bit == 1 && !present) = false := by
  by_cases hb : bit = 1
  · rw [h hb]; exact Bool.and_false _
  · rw [beq_false_of_ne hb]; rfl

theorem known_mem : ANIM ∈ known ∧ ANMF ∈ known ∧ ICCP ∈ known ∧ EXIF ∈ known ∧ XMP ∈ known ∧ VP8 ∈ known ∧ VP8L ∈ known := by
  simp only [known, List.mem_cons, true_or, or_true, and_self]

/-- the scan loop with the bound and fuel `read_data` gives it on an extended file -/
theorem extended_scan (flags r0 r1 r2 cw ch : Nat) (items : List Item) {F : List Nat}
    (hF : F = extendedFile flags r0 r1 r2 cw ch (chunksOf items))
    (hall : ∀ it ∈ items, it.Ok) :
    ∃ s' : Scan,
      scanLoop (30 + (22 + (layout (chunksOf items)).length - 12)) (F.length + 1)
        { position := 30, chunks := [], numFrames := 0, loopDuration := 0, isLossy := false } ⟨F, 30⟩ =
          .ok (s', ⟨F, s'.position⟩) ∧
      s'.numFrames = numFrames items ∧ s'.loopDuration = durSum items % 2 ^ 64 ∧ s'.isLossy = anyLossy items ∧
      (∀ k ∈ known, s'.chunks.get? k = firstRange k 30 (chunksOf items)) ∧
      (∀ k ∈ known, s'.chunks.has k = has k (chunksOf items)) := by
  have h30 : At F 30 (layout (chunksOf items)) := hF ▸ extendedFile_at flags r0 r1 r2 cw ch (chunksOf items)
  have hlen := at_length h30
  have hcount : items.length ≤ (layout (chunksOf items)).length := by
    have := length_le_flatMap (chunksOf items) (chunksOf_ok items hall)
    rwa [chunksOf, List.length_map] at this
  obtain ⟨a1, a2, a3, a4⟩ := after_items items
    { position := 30, chunks := [], numFrames := 0, loopDuration := 0, isLossy := false } (Nat.two_pow_pos 64)
  have hget : ∀ k ∈ known, (items.foldl after
      { position := 30, chunks := [], numFrames := 0, loopDuration := 0, isLossy := false }).chunks.get? k =
      firstRange k 30 (chunksOf items) := fun k hk => a4 k hk
  exact ⟨_, scanLoop_items _ (by omega) items _ _ hall (Nat.lt_succ_of_le (Nat.le_trans hcount (hlen ▸ Nat.le_add_left ..))) h30, a1.trans (Nat.zero_add _),
    by rw [a2, Nat.zero_add], a3, hget, fun k hk => by rw [Chunks.has, hget k hk]; rfl⟩

/-- **Whole file, animated**: `WebPDecoder::new` on RIFF header + VP8X (animation bit set) + any
    sequence of chunks and ANMF frames (at least one frame, an ANIM chunk of 6 bytes somewhere,
    whatever the flags promise) reports the canvas, the alpha flag, the frame count, the loop
    duration as the sum of the frames' 24-bit durations, lossy-ness, the ANIM fields, and a chunk
    table in which every known name that is not a sub-chunk name of the first frame is bound to its
    first top-level occurrence. -/
theorem open_animated (flags r0 r1 r2 cw ch : Nat) (items : List Item)
    (hfl : flags < 256) (hr : r0 < 256 ∧ r1 < 256 ∧ r2 < 256)
    (hcw : 1 ≤ cw ∧ cw ≤ 2 ^ 24) (hch : 1 ≤ ch ∧ ch ≤ 2 ^ 24) (hprod : cw * ch < 2 ^ 32)
    (hall : ∀ it ∈ items, it.Ok)
    (hsize : 22 + (layout (chunksOf items)).length < 2 ^ 32)
    (hanim : flags / 2 % 2 = 1) (hframes : 0 < numFrames items)
    (hanimc : has ANIM (chunksOf items) = true) (hanim6 : ∀ c ∈ chunksOf items, c.1 = ANIM → c.2.length = 6)
    (hicc : flags / 32 % 2 = 1 → has ICCP (chunksOf items) = true) (hexif : flags / 8 % 2 = 1 → has EXIF (chunksOf items) = true)
    (hxmp : flags / 4 % 2 = 1 → has XMP (chunksOf items) = true) :
    ∃ info bs, openFile (extendedFile flags r0 r1 r2 cw ch (chunksOf items)) = .ok info ∧
      (∃ c ∈ chunksOf items, c.1 = ANIM ∧ c.2 = bs) ∧
      info.width = cw ∧ info.height = ch ∧ info.extended = true ∧ info.animation = true ∧
      info.hasAlpha = (flags / 16 % 2 == 1) ∧ info.numFrames = numFrames items ∧
      info.loopDuration = durSum items % 2 ^ 64 ∧
      info.isLossy = (anyLossy items || has VP8 (chunksOf items)) ∧
      info.loopCount = bs.getD 4 0 + 256 * bs.getD 5 0 ∧
      info.background = [bs.getD 2 0, bs.getD 1 0, bs.getD 0 0, bs.getD 3 0] ∧
      (∀ s0 e0, firstRange ANMF 30 (chunksOf items) = some (s0, e0) →
        ∀ k ∈ known, (∀ n ∈ frameSubNames (extendedFile flags r0 r1 r2 cw ch (chunksOf items)) s0 e0, n ≠ k) →
          info.chunks.get? k = firstRange k 30 (chunksOf items)) := by
  generalize hF : extendedFile flags r0 r1 r2 cw ch (chunksOf items) = F
  obtain ⟨e1, e2, e3, e4, e5, e6, e7⟩ := extended_prefix flags r0 r1 r2 cw ch (chunksOf items) hF.symm hsize hcw hch
  obtain ⟨s', hscan, a1, a2, a3, hget, hhas⟩ := extended_scan flags r0 r1 r2 cw ch items hF.symm hall
  have h30 : At F 30 (layout (chunksOf items)) := hF ▸ extendedFile_at flags r0 r1 r2 cw ch (chunksOf items)
  have hallc := chunksOf_ok items hall
  obtain ⟨k1, k2, k3, k4, k5, k6, _⟩ := known_mem
  obtain ⟨n1, n2, n3⟩ := fourcc_arm.2.2.2
  -- the first ANIM chunk: six bytes inside the data
  obtain ⟨⟨a, b⟩, hab⟩ := Option.isSome_iff_exists.mp hanimc
  obtain ⟨c, hc, hcn, rfl, _, hcat⟩ := firstRange_payload ANIM _ 30 a b hallc h30 hab
  have hc6 := hanim6 c hc hcn
  have hrd := readChunk_at s'.chunks ANIM 6 s'.position ((hget _ k1).trans hab) hcat
  rw [hc6, if_neg (Nat.lt_irrefl 6)] at hrd
  -- the first frame: at least 24 bytes inside the data
  have hA : has ANMF (chunksOf items) = true := frames_anmf items 30 hframes
  obtain ⟨⟨s0, e0⟩, hse⟩ := Option.isSome_iff_exists.mp hA
  obtain ⟨f, hf, hfn, rfl, _, hfat⟩ := firstRange_payload ANMF _ 30 s0 e0 hallc h30 hse
  obtain ⟨ch', r'', hff, hprop⟩ := firstFrame_ok F s0 (s0 + f.2.length) (a + 6) s'.chunks
    (Nat.add_le_add_left (anmf_length items hall f hf hfn) s0) (at_le (at_read hfat rfl).2)
  -- the reads and the arm they select; the canvas; the scan; the `ChunkMissing` test; the ANIM chunk; the first frame
  simp only [openFile, readData, e1, e2, e3, e4, e5, e6, e7, bne_self_eq_false, Bool.false_eq_true, if_false, if_true,
    n1, n2, n3, Nat.sub_add_cancel hcw.1, Nat.sub_add_cancel hch.1, Nat.reduceAdd,
    if_neg (Nat.not_le.mpr hprod), hscan, hhas _ k1, hhas _ k2, hhas _ k3, hhas _ k4, hhas _ k5, hhas _ k6, hanim,
    promised _ _ hicc, promised _ _ hexif, promised _ _ hxmp, hanimc, hA, hrd, hc6, (hget _ k2).trans hse, hff, a3,
    beq_self_eq_true, Bool.not_true, Bool.or_self, Bool.and_false, Bool.false_and, Nat.lt_irrefl]
  refine ⟨_, c.2, rfl, ⟨c, hc, hcn, rfl⟩, rfl, rfl, rfl, rfl, rfl, a1, a2, rfl, rfl, rfl, ?_⟩
  intro s1 e1 hse1 k hk hnames
  obtain ⟨rfl, rfl⟩ := Prod.mk.inj (Option.some.inj (hse.symm.trans hse1))
  exact (hprop k hnames).trans (hget k hk)

end ScanProof
