import WebpVerif.Lemmas.EncHuffCodes

/-!
The code word the encoder writes (the canonical code word bit-reversed, emitted LSB first) is,
read in stream order, the canonical code word MSB first - the order `Prefix.decodeSym` consumes.
-/
namespace EncHuff

theorem bitSum_rec (c n : Nat) : bitSum c (n + 1) (n + 1) = (c % 2) * 2 ^ n + bitSum (c / 2) n n := by
  unfold bitSum
  rw [List.range_succ_eq_map, List.map_cons, List.sum_cons, List.map_map, Nat.add_sub_cancel, Nat.sub_zero,
    Nat.pow_zero, Nat.div_one]
  refine congrArg (_ + List.sum ·) (List.map_congr_left fun k _ => ?_)
  show c / 2 ^ (k + 1) % 2 * 2 ^ (n - (k + 1)) = _
  rw [Nat.pow_succ, Nat.mul_comm (2 ^ k) 2, ← Nat.div_div_eq_div_mul, Nat.sub_add_eq, Nat.sub_right_comm]

theorem bitSum_lt : ∀ (n c : Nat), bitSum c n n < 2 ^ n := by
  intro n
  induction n with
  | zero => intro c; exact Nat.one_pos
  | succ n ih =>
    intro c
    have : c % 2 * 2 ^ n ≤ 1 * 2 ^ n := Nat.mul_le_mul_right _ (Nat.le_of_lt_succ (Nat.mod_lt _ (by decide)))
    rw [Nat.one_mul] at this
    rw [bitSum_rec, Nat.pow_succ, Nat.mul_two]
    exact Nat.add_lt_add_of_le_of_lt this (ih (c / 2))

end EncHuff

namespace Prefix
open EncHuff

/-- the low `n` bits of `v` in stream order (LSB first) -/
def lsbBits (v n : Nat) : List Nat := (List.range n).map fun k => v / 2 ^ k % 2

theorem lsbBits_succ (v n : Nat) : lsbBits v (n + 1) = lsbBits (v % 2 ^ n) n ++ [v / 2 ^ n % 2] := by
  unfold lsbBits
  rw [List.range_succ, List.map_append, List.map_singleton]
  refine congrArg (· ++ _) (List.map_congr_left fun k hk => ?_)
  obtain ⟨j, rfl⟩ := Nat.exists_eq_add_of_lt (List.mem_range.mp hk)
  rw [Nat.add_assoc, Nat.pow_add, Nat.mod_mul_right_div_self, Nat.pow_succ, Nat.mod_mul_left_mod]

theorem msbBits_snoc (c n : Nat) : msbBits c (n + 1) = msbBits (c / 2) n ++ [c % 2] := by
  unfold msbBits
  rw [List.range_succ, List.map_append, List.map_singleton, Nat.add_sub_cancel, Nat.sub_self, Nat.pow_zero, Nat.div_one]
  refine congrArg (· ++ _) (List.map_congr_left fun k hk => ?_)
  obtain ⟨j, rfl⟩ := Nat.exists_eq_add_of_lt (List.mem_range.mp hk)
  rw [Nat.add_sub_cancel, Nat.add_sub_cancel_left, Nat.add_assoc, Nat.add_sub_cancel_left, Nat.pow_succ, Nat.mul_comm,
    ← Nat.div_div_eq_div_mul]

theorem lsb_reverse_eq_msb : ∀ (len c : Nat), lsbBits (reverseBits c len) len = msbBits c len := by
  intro len
  induction len with
  | zero => intro c; rfl
  | succ n ih =>
    intro c
    rw [reverseBits_eq, lsbBits_succ, msbBits_snoc, bitSum_rec]
    have hlt := bitSum_lt n (c / 2)
    have h2 : c % 2 < 2 := Nat.mod_lt _ (by decide)
    have e1 : (c % 2 * 2 ^ n + bitSum (c / 2) n n) % 2 ^ n = bitSum (c / 2) n n := by
      rw [Nat.mul_comm, Nat.mul_add_mod, Nat.mod_eq_of_lt hlt]
    have e2 : (c % 2 * 2 ^ n + bitSum (c / 2) n n) / 2 ^ n % 2 = c % 2 := by
      rw [Nat.mul_comm, Nat.mul_add_div (Nat.two_pow_pos n), Nat.div_eq_of_lt hlt, Nat.add_zero, Nat.mod_mod]
    rw [e1, e2, ← reverseBits_eq, ih]

theorem decodeSym_reversed (ls : List Nat) (s c fuel : Nat) (hs : canonicalCode ls s = some c)
    (hfit : c < 2 ^ ls.getD s 0) (hf : ls.getD s 0 ≤ fuel) (rest : List Nat) :
    decodeSym ls fuel 0 0 (lsbBits (reverseBits c (ls.getD s 0)) (ls.getD s 0) ++ rest) = some (s, rest) := by
  rw [lsb_reverse_eq_msb]
  exact decodeSym_canonical ls s c fuel hs hfit hf rest

end Prefix
