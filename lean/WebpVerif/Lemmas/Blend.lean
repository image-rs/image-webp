import WebpVerif.Model.Blend
import Mathlib.Tactic.Ring

/-! The fixed-point blending of alpha_blending.rs: `div255` is the rounded division, and multiplying
by the floor reciprocal `2^24 / b` misses `X / b` by less than one step (`recip`). Hence a blended
channel is `X / b` or one less without truncation (`chan_mul`), lies between its two inputs up to one
(`chan_range`), and is close to the exact "over" quotient (`over_error`). -/

namespace Blend

theorem div255_round (v : Nat) (h : v ≤ 255 * 255) : div255 v = (2 * v + 255) / 510 := by
  unfold div255; omega

/-- `N = q·b + r` with `r < b` gives `X·q·b = X·N − X·r`, and `X·r < N`. -/
theorem recip {N b X : Nat} (hb : 0 < b) (hX : X * b < N) :
    X * (N / b) / N * b ≤ X ∧ X ≤ X * (N / b) / N * b + b := by
  have hN : 0 < N := Nat.zero_lt_of_lt hX
  have hr : X * (N % b) < N :=
    Nat.lt_of_le_of_lt (Nat.mul_le_mul_left X (Nat.mod_lt N hb).le) hX
  have hq : X * (N / b) * b + X * (N % b) = X * N := by
    rw [Nat.mul_assoc, ← Nat.mul_add, Nat.div_add_mod']
  constructor
  · apply Nat.le_of_mul_le_mul_right _ hN
    calc X * (N / b) / N * b * N = X * (N / b) / N * N * b := Nat.mul_right_comm ..
      _ ≤ X * (N / b) * b := Nat.mul_le_mul_right b (Nat.div_mul_le_self ..)
      _ ≤ X * N := hq ▸ Nat.le_add_right ..
  · apply Nat.le_of_lt_succ
    apply Nat.lt_of_mul_lt_mul_right (a := N)
    calc X * N = X * (N / b) * b + X * (N % b) := hq.symm
      _ < N * (X * (N / b) / N + 1) * b + N :=
        Nat.add_lt_add_of_le_of_lt (Nat.mul_le_mul_right b (Nat.lt_mul_div_succ _ hN).le) hr
      _ = (X * (N / b) / N * b + b + 1) * N := by ring

/-- rounding error of `dst_factor_a`: |255·dfa − da·(255−sa)| ≤ 127 -/
theorem dstFactor_err (sa da : Nat) (hda : da < 256) :
    255 * dstFactor sa da ≤ da * (255 - sa) + 127 ∧ da * (255 - sa) ≤ 255 * dstFactor sa da + 127 := by
  unfold dstFactor
  rw [div255_round _ (Nat.mul_le_mul (Nat.le_of_lt_succ hda) (Nat.sub_le 255 sa))]
  omega

/-- `dst_factor_a ≤ 255 - src_a`: the `debug_assert!` of `blend_pixel_nonpremult` -/
theorem dstFactor_le (sa da : Nat) (hda : da < 256) : dstFactor sa da ≤ 255 - sa := by
  have := dstFactor_err sa da hda
  have := Nat.mul_le_mul_right (255 - sa) (Nat.le_of_lt_succ hda)
  omega

theorem min_mul_le_unscaled (s sa d dfa : Nat) : min s d * (sa + dfa) ≤ unscaled s sa d dfa :=
  Nat.mul_add .. ▸ Nat.add_le_add (Nat.mul_le_mul_right _ (Nat.min_le_left ..))
    (Nat.mul_le_mul_right _ (Nat.min_le_right ..))

theorem unscaled_le_max_mul (s sa d dfa : Nat) : unscaled s sa d dfa ≤ max s d * (sa + dfa) :=
  Nat.mul_add .. ▸ Nat.add_le_add (Nat.mul_le_mul_right _ (Nat.le_max_left ..))
    (Nat.mul_le_mul_right _ (Nat.le_max_right ..))

theorem unscaled_le (s sa d dfa : Nat) (hs : s < 256) (hd : d < 256) :
    unscaled s sa d dfa ≤ 255 * (sa + dfa) :=
  (unscaled_le_max_mul ..).trans (Nat.mul_le_mul_right _ (by omega))

/-- For byte inputs and a non-zero source alpha neither `% 256` of `chan` truncates, and with
    `b` the result alpha and `X` the unscaled numerator, `chan` is `X / b` or one less. -/
theorem chan_mul (s sa d da : Nat) (hs : s < 256) (hsa : 1 ≤ sa) (hsa2 : sa < 256)
    (hd : d < 256) (hda : da < 256) :
    chan s sa d da * (sa + dstFactor sa da) ≤ unscaled s sa d (dstFactor sa da) ∧
    unscaled s sa d (dstFactor sa da) ≤
      chan s sa d da * (sa + dstFactor sa da) + (sa + dstFactor sa da) := by
  have hdfa := dstFactor_le sa da hda
  have hb : 0 < sa + dstFactor sa da ∧ sa + dstFactor sa da ≤ 255 := by omega
  have hchan : chan s sa d da = unscaled s sa d (dstFactor sa da) *
      (2 ^ 24 / (sa + dstFactor sa da)) / 2 ^ 24 % 256 := by
    unfold chan blendChannel scaleOf
    rw [Nat.mod_eq_of_lt (by omega : dstFactor sa da < 256), Nat.shiftRight_eq_div_pow]
  have hX := unscaled_le s sa d (dstFactor sa da) hs hd
  generalize unscaled s sa d (dstFactor sa da) = X at *
  generalize sa + dstFactor sa da = b at *
  have hXb : X * b < 2 ^ 24 :=
    calc X * b ≤ 255 * b * b := Nat.mul_le_mul_right b hX
      _ ≤ 255 * 255 * 255 := Nat.mul_le_mul (Nat.mul_le_mul_left 255 hb.2) hb.2
      _ < 2 ^ 24 := by decide
  have h := recip hb.1 hXb
  have : X * (2 ^ 24 / b) / 2 ^ 24 ≤ 255 := Nat.le_of_mul_le_mul_right (h.1.trans hX) hb.1
  rwa [hchan, Nat.mod_eq_of_lt (Nat.lt_succ_of_le this)]

theorem dstFactor_opaque (da : Nat) : dstFactor 255 da = 0 := by
  simp [dstFactor, div255]

/-- With an opaque source `scale = 2^24 / 255 = 65793` and `255 · 65793 = 2^24 − 1`, so the
    channel is `(s·2^24 − s) >> 24`. -/
theorem chan_opaque (s d da : Nat) (hs : s < 256) : chan s 255 d da = s - 1 := by
  unfold chan blendChannel unscaled scaleOf
  rw [dstFactor_opaque, Nat.shiftRight_eq_div_pow, Nat.zero_mod, Nat.mul_zero,
    Nat.div_eq_of_lt_le (k := s - 1) (by omega) (by omega)]
  omega

/-- range of one blended channel (tighter than the property asks: lower slack 1, upper 0) -/
theorem chan_range (s sa d da : Nat) (hs : s < 256) (hsa : 1 ≤ sa) (hsa2 : sa < 256)
    (hd : d < 256) (hda : da < 256) :
    min s d ≤ chan s sa d da + 1 ∧ chan s sa d da ≤ max s d := by
  obtain ⟨hlo, hhi⟩ := chan_mul s sa d da hs hsa hsa2 hd hda
  have hb : 0 < sa + dstFactor sa da := Nat.add_pos_left hsa _
  constructor
  · apply Nat.le_of_mul_le_mul_right _ hb
    rw [Nat.add_one_mul]
    exact (min_mul_le_unscaled ..).trans hhi
  · exact Nat.le_of_mul_le_mul_right (hlo.trans (unscaled_le_max_mul ..)) hb

/-- Error of `r ≈ X / b` against the exact quotient of `255·s·sa + d·P` by `255·sa + P`, where
    `b = sa + dfa`, `X = s·sa + d·dfa` and `dfa` approximates `P / 255` with `ε = 255·dfa − P`:
    `r·(255·sa + P) − (255·s·sa + d·P) = 255·(r·b − X) − ε·(r − d)`; the first term lies in
    `[−255·b, 0]` and the second is at most `127·255` in absolute value. -/
theorem over_error {r s d sa dfa P : Int} (hlo : r * (sa + dfa) ≤ s * sa + d * dfa)
    (hhi : s * sa + d * dfa ≤ r * (sa + dfa) + (sa + dfa)) (hb : sa + dfa ≤ 255)
    (hε : (255 * dfa - P).natAbs ≤ 127) (hrd : (r - d).natAbs ≤ 255) :
    r * (255 * sa + P) - (255 * s * sa + d * P) ≤ 2 * 255 * 255 ∧
    255 * s * sa + d * P - r * (255 * sa + P) ≤ 2 * 255 * 255 := by
  have key : r * (255 * sa + P) - (255 * s * sa + d * P) =
      255 * (r * (sa + dfa) - (s * sa + d * dfa)) - (255 * dfa - P) * (r - d) := by ring
  have hprod : ((255 * dfa - P) * (r - d)).natAbs ≤ 127 * 255 :=
    Int.natAbs_mul .. ▸ Nat.mul_le_mul hε hrd
  omega

end Blend
