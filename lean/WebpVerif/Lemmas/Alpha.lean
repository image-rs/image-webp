import WebpVerif.Model.Alpha
import WebpVerif.Spec.AlphaSpec

/-! The in-place alpha unfiltering loop of decoder.rs reads earlier alphas back from the interleaved
buffer it writes. Invariant (`unfilter_spec`): after `n` steps the first `n` alphas of the buffer
are the specification's `reconstruct`, on which the code's predictor is the specification's
(`predictor_eq`). -/

namespace Alpha
open AlphaSpec

theorem alphaAt_set (buf : Array Nat) (i j v : Nat) (h : i * 4 + 3 < buf.size) :
    alphaAt (buf.setIfInBounds (i * 4 + 3) v) j = if i = j then v else alphaAt buf j := by
  unfold alphaAt
  simp only [Array.getElem!_eq_getD, Array.getD_eq_getD_getElem?, Array.getElem?_setIfInBounds]
  by_cases hij : i = j
  · subst hij; simp [h]
  · have : ¬ (i * 4 = j * 4) := by omega
    simp [hij, this]

theorem reconstruct_length (w m : Nat) (d : List Nat) (n : Nat) : (reconstruct w m d n).length = n := by
  induction n with
  | zero => rfl
  | succ n ih => simp [reconstruct, ih]

theorem reconstruct_getD_stable (w m : Nat) (d : List Nat) (n i : Nat) (hi : i < n) :
    (reconstruct w m d (n + 1)).getD i 0 = (reconstruct w m d n).getD i 0 := by
  simp only [reconstruct, List.getD_eq_getElem?_getD]
  rw [List.getElem?_append_left (by rw [reconstruct_length]; exact hi)]

theorem reconstruct_getD_last (w m : Nat) (d : List Nat) (n : Nat) :
    (reconstruct w m d (n + 1)).getD n 0 = (pred w m (reconstruct w m d n) n + d.getD n 0) % 256 := by
  simp only [reconstruct, List.getD_eq_getElem?_getD]
  rw [List.getElem?_append_right (by rw [reconstruct_length]; exact Nat.le_refl _),
    reconstruct_length, Nat.sub_self]
  rfl

theorem reconstruct_lt (w m : Nat) (d : List Nat) (n i : Nat) (hi : i < n) :
    (reconstruct w m d n).getD i 0 < 256 := by
  induction n with
  | zero => omega
  | succ n ih =>
    rcases Nat.lt_succ_iff_lt_or_eq.mp hi with h | rfl
    · rw [reconstruct_getD_stable w m d n i h]; exact ih h
    · rw [reconstruct_getD_last]; exact Nat.mod_lt _ (by decide)

theorem clamp_id (v : Nat) (h : v < 256) : clamp255 (v : Int) = v := by
  unfold clamp255; omega

theorem clamp_byte (v : Nat) (h : v < 256) : clamp255 ((v : Int) + v - v) = v := by
  rw [Int.add_sub_cancel]; exact clamp_id v h

theorem above (w x y : Nat) : (y + 1) * w + x - w = y * w + x := by
  rw [Nat.succ_mul, Nat.add_right_comm, Nat.add_sub_cancel]

theorem above_lt {w : Nat} (hw : 0 < w) (x y : Nat) : y * w + x < (y + 1) * w + x := by
  rw [Nat.succ_mul, Nat.add_right_comm]; exact Nat.lt_add_of_pos_right hw

theorem predictor_eq (w : Nat) (hw : 0 < w) (f : Nat) (buf : Array Nat) (prev : List Nat) (k : Nat)
    (hprev : ∀ i, i < k → alphaAt buf i = prev.getD i 0) (hlt : ∀ i, i < k → prev.getD i 0 < 256) :
    predictor (k % w) (k / w) w f buf = pred w f prev k := by
  have hk : k / w * w + k % w = k := Nat.div_add_mod' k w
  unfold predictor pred
  simp only
  generalize k % w = x at *
  generalize k / w = y at *
  subst hk
  have hup := above_lt hw x
  rcases Nat.eq_zero_or_pos x with rfl | hx
  · rcases y with _ | y
    · simp only [and_self, if_true, show clamp255 0 = 0 from rfl, ite_self]
    · simp only [Nat.succ_ne_zero, and_false, if_false, if_true, Nat.add_sub_cancel, above,
        hprev _ (hup _), clamp_byte _ (hlt _ (hup _))]
  · have h1 : y * w + x - 1 < y * w + x := Nat.sub_lt (Nat.add_pos_right _ hx) Nat.one_pos
    rcases y with _ | y
    · simp only [Nat.ne_of_gt hx, false_and, if_false, if_true, hprev _ h1,
        clamp_byte _ (hlt _ h1)]
    · simp only [Nat.ne_of_gt hx, Nat.succ_ne_zero, false_and, if_false, Nat.add_sub_cancel,
        above, hprev _ h1, hprev _ (hup _), hprev _ (Nat.lt_of_le_of_lt (Nat.sub_le ..) (hup _))]
      rfl

/-- **The sequential in-place loop reconstructs the specified alpha plane**, for every width,
    every number of pixels, all four filters and all deltas; nothing else of the state matters. -/
theorem unfilter_spec (w : Nat) (hw : 0 < w) (f : Nat) (data : Array Nat) (buf : Array Nat) (n : Nat)
    (hbuf : n * 4 ≤ buf.size) :
    (unfilterInto w f data n buf).size = buf.size ∧
    ∀ i, i < n → alphaAt (unfilterInto w f data n buf) i = (reconstruct w f data.toList n).getD i 0 := by
  induction n with
  | zero => exact ⟨rfl, fun _ hi => nomatch hi⟩
  | succ n ih =>
    obtain ⟨hsz, hget⟩ := ih (by omega)
    have hstep : unfilterInto w f data (n + 1) buf =
        (unfilterInto w f data n buf).setIfInBounds (n * 4 + 3)
          ((predictor (n % w) (n / w) w f (unfilterInto w f data n buf) + data[n]!) % 256) := by
      unfold unfilterInto
      rw [List.range_succ, List.foldl_append]; rfl
    have hpred := predictor_eq w hw f _ _ n hget (reconstruct_lt w f data.toList n)
    refine ⟨by rw [hstep, Array.size_setIfInBounds, hsz], ?_⟩
    intro i hi
    rw [hstep, alphaAt_set _ _ _ _ (by rw [hsz]; omega), hpred]
    rcases Nat.lt_succ_iff_lt_or_eq.mp hi with h | rfl
    · rw [if_neg (Nat.ne_of_gt h), hget i h, reconstruct_getD_stable w f data.toList n i h]
    · rw [if_pos rfl, reconstruct_getD_last]
      simp [Array.getElem!_eq_getD, Array.getD_eq_getD_getElem?]

end Alpha
