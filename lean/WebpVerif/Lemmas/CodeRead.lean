import WebpVerif.Model.CodeRead
import WebpVerif.Spec.CodeLengths
import WebpVerif.Lemmas.EncTree
import WebpVerif.Lemmas.HuffTop

/-!
`CodeRead.readCode` (the model of `read_huffman_code` / `read_huffman_code_lengths`) accepts exactly
the serialised prefix codes the specification's `ReadCode` (`Prefix.readCodeL`) accepts, consumes
the same bits, and the `HuffmanTree` it returns reads every bit string like the specification's
canonical decoder for the lengths `ReadCode` returns.
-/
namespace CodeReadProof
open Prefix Huff CodeRead

def Bits01 (bits : List Nat) : Prop := ∀ b ∈ bits, b < 2

/-- the tree reads like the specification's decoder for `lens` -/
def TreeIs (t : Built) (lens : List Nat) : Prop := ∀ bs, Bits01 bs → readSym t bs = decodeSymbol lens bs

/-- outcome of two runs that must agree: both fail, or both succeed, leave the same rest of the
    stream - again a bit string, which is what the next reader's agreement asks for - and return
    related results -/
def Both {α β : Type} (R : α → β → Prop) (x : Option (α × List Nat)) (y : Option (β × List Nat)) : Prop :=
  match x, y with
  | none, none => True
  | some (a, r1), some (b, r2) => r1 = r2 ∧ Bits01 r2 ∧ R a b
  | _, _ => False

theorem Both.fail {α β : Type} {R : α → β → Prop} : Both R none none := trivial

theorem Both.cases {α β : Type} {R : α → β → Prop} {x : Option (α × List Nat)} {y : Option (β × List Nat)} (h : Both R x y) :
    (x = none ∧ y = none) ∨ ∃ a b r, x = some (a, r) ∧ y = some (b, r) ∧ Bits01 r ∧ R a b := by
  unfold Both at h
  split at h
  · exact Or.inl ⟨rfl, rfl⟩
  · obtain ⟨rfl, hr, hab⟩ := h
    exact Or.inr ⟨_, _, _, rfl, rfl, hr, hab⟩
  · exact h.elim

/-- both runs read a value and go on with it.  For reads of the type of
    `readBitsL` only: the matcher Lean compiles for `match x with | none => none | some (v, rest) => _`
    is determined by the type of `x`, not of the result, so this statement unifies with the models'
    and the specification's code as written, where one polymorphic in the type of `v` does not.
    A `match` on such a `match` (a reader called by another) is out of its reach. -/
theorem Both.bind {α β : Type} {P : Option α → Option β → Prop} (hP : P none none) {x y : Option (Nat × List Nat)}
    {F : Nat → List Nat → Option α} {G : Nat → List Nat → Option β} : Both Eq x y → (∀ v rest, Bits01 rest → P (F v rest) (G v rest)) →
    P (match x with | none => none | some (v, rest) => F v rest) (match y with | none => none | some (v, rest) => G v rest) := by
  intro h hFG
  rcases h.cases with ⟨rfl, rfl⟩ | ⟨v, _, rest, rfl, rfl, hr, rfl⟩
  · exact hP
  · exact hFG v rest hr

theorem readBits_eq (n : Nat) (bits : List Nat) : CodeRead.readBits n bits = readBitsL n bits := by
  unfold CodeRead.readBits readBitsL
  rw [lsbVal_eq]

theorem bits01_drop (bits : List Nat) (n : Nat) (h : Bits01 bits) : Bits01 (bits.drop n) :=
  fun b hb => h b (List.mem_of_mem_drop hb)

theorem bitsVal_lt (l : List Nat) (h : Bits01 l) : bitsVal l < 2 ^ l.length := by
  rw [← lsbVal_eq]
  exact lsbVal_lt l h

theorem readBitsL_cases (n : Nat) (bits : List Nat) (hb : Bits01 bits) :
    readBitsL n bits = none ∨ ∃ v rest, readBitsL n bits = some (v, rest) ∧ Bits01 rest ∧ v < 2 ^ n := by
  unfold readBitsL
  by_cases h : bits.length < n
  · exact Or.inl (if_pos h)
  · refine Or.inr ⟨_, _, if_neg h, bits01_drop bits n hb, ?_⟩
    have h3 := bitsVal_lt (bits.take n) (fun b hb' => hb b (List.mem_of_mem_take hb'))
    exact Nat.lt_of_lt_of_le h3 (Nat.pow_le_pow_right (by decide) (List.length_take_le n bits))

theorem readBitsL_both (n : Nat) {bits : List Nat} (hb : Bits01 bits) : Both Eq (readBitsL n bits) (readBitsL n bits) := by
  unfold readBitsL
  split
  · exact Both.fail
  · exact ⟨rfl, bits01_drop bits n hb, rfl⟩

theorem readBits_both (n : Nat) {bits : List Nat} (hb : Bits01 bits) : Both Eq (CodeRead.readBits n bits) (readBitsL n bits) := by
  rw [readBits_eq]
  exact readBitsL_both n hb

theorem readClcl_eq : ∀ (order clcl bits : List Nat), readClcl order clcl bits = readClLens order clcl bits := by
  intro order
  induction order with
  | nil => intro _ _; rfl
  | cons pos order ih =>
    intro clcl bits
    unfold readClcl readClLens
    rw [readBits_eq]
    cases readBitsL 3 bits with
    | none => rfl
    | some r => exact ih _ _

theorem readClLens_rest : ∀ (order clcl bits cl rest : List Nat), readClLens order clcl bits = some (cl, rest) → Bits01 bits →
    Bits01 rest ∧ cl.length = clcl.length ∧ ((∀ l ∈ clcl, l ≤ 7) → ∀ l ∈ cl, l ≤ 7) := by
  intro order
  induction order with
  | nil =>
    intro clcl bits cl rest h hb
    unfold readClLens at h
    cases h
    exact ⟨hb, rfl, fun h => h⟩
  | cons pos order ih =>
    intro clcl bits cl rest h hb
    unfold readClLens at h
    rcases readBitsL_cases 3 bits hb with hr | ⟨l, bits', hr, hb', hl⟩
    · rw [hr] at h; cases h
    · rw [hr] at h
      obtain ⟨h1, h2, h3⟩ := ih _ _ _ _ h hb'
      refine ⟨h1, by rw [h2, List.length_set], fun hle => h3 ?_⟩
      intro x hx
      rcases List.mem_or_eq_of_mem_set hx with hx | hx
      · exact hle x hx
      · omega

theorem build_spec (ls : List Nat) (hall : ∀ l ∈ ls, l ≤ 15) (hn : ls.length ≤ 5000) :
    (validLengths ls = true → build ls ≠ .err ∧ TreeIs (build ls) ls) ∧ (validLengths ls ≠ true → build ls = .err) := by
  constructor
  · intro hv
    rcases build_total ls hall hn hv with ⟨t, ht⟩ | ⟨s', hs'⟩
    · exact ⟨(by rw [ht]; intro h; cases h), build_ok_spec_all ls hall hn t ht⟩
    · exact ⟨(by rw [hs']; intro h; cases h), fun bs _ => (build_single_spec ls hall s' hs').2 bs⟩
  · intro hv
    cases hb : build ls with
    | err => rfl
    | single s' => exact absurd (build_single_spec ls hall s' hb).1 hv
    | ok t => exact absurd (build_ok_valid ls hall hn t hb) hv

/-- the final step of both readers: `build_implicit(new_code_lengths)` against the specification's
    validity test -/
theorem both_build (lens rest : List Nat) (hall : ∀ l ∈ lens, l ≤ 15) (hn : lens.length ≤ 5000) (hr : Bits01 rest) :
    Both TreeIs (match build lens with | .err => none | t => some (t, rest)) (if validLengths lens then some (lens, rest) else none) := by
  by_cases hv : validLengths lens = true
  · obtain ⟨hne, hT⟩ := (build_spec lens hall hn).1 hv
    rw [if_pos hv]
    cases hb : build lens with
    | err => exact absurd hb hne
    | single z => rw [hb] at hT; exact ⟨rfl, hr, hT⟩
    | ok t => rw [hb] at hT; exact ⟨rfl, hr, hT⟩
  · rw [if_neg hv, (build_spec lens hall hn).2 hv]
    exact Both.fail

theorem findIdx_lt_of_filter (ls : List Nat) (h : (ls.filter (· ≠ 0)).length = 1) : ls.findIdx (· ≠ 0) < ls.length := by
  apply List.findIdx_lt_length_of_exists
  have : (ls.filter (· ≠ 0)) ≠ [] := List.ne_nil_of_length_pos (h ▸ Nat.one_pos)
  obtain ⟨x, hx⟩ := List.exists_mem_of_ne_nil _ this
  exact ⟨x, (List.mem_filter.mp hx).1, (List.mem_filter.mp hx).2⟩

theorem decodeSymbol_sound (ls bits : List Nat) (s : Nat) (rest : List Nat) (h : decodeSymbol ls bits = some (s, rest)) (hb : Bits01 bits) :
    s < ls.length ∧ Bits01 rest := by
  unfold decodeSymbol at h
  split at h
  · cases h
    exact ⟨findIdx_lt_of_filter ls (by assumption), hb⟩
  · obtain ⟨taken, ht, _, hc⟩ := decodeSym_sound ls 15 0 0 bits s rest h
    exact ⟨(canonical_some ls s _ hc).1, fun b hb' => hb b (by rw [ht]; exact List.mem_append_right _ hb')⟩

theorem set_at_len (lens : List Nat) (k v : Nat) :
    (lens ++ List.replicate (k + 1) 0).set lens.length v = (lens ++ [v]) ++ List.replicate k 0 := by
  rw [List.set_append_right _ _ (Nat.le_refl _), Nat.sub_self, List.replicate_succ, List.set_cons_zero, List.append_assoc]
  rfl

theorem fillRun_toList : ∀ (rep : Nat) (cl : Array Nat) (lens : List Nat) (symbol k v : Nat), lens.length = symbol →
    cl.toList = lens ++ List.replicate (rep + k) 0 →
    (fillRun cl symbol rep v).toList = (lens ++ List.replicate rep v) ++ List.replicate k 0 := by
  intro rep
  induction rep with
  | zero => intro cl lens symbol k v _ h; simpa [fillRun] using h
  | succ rep ih =>
    intro cl lens symbol k v hs h
    subst hs
    unfold fillRun
    rw [ih _ (lens ++ [v]) (lens.length + 1) k v List.length_append (by rw [Array.toList_setIfInBounds, h, Nat.add_right_comm, set_at_len]),
      List.append_assoc lens]
    rfl

theorem all_le_replicate {k v m : Nat} (hv : v ≤ m) : ∀ l ∈ List.replicate k v, l ≤ m := by
  intro l hl
  rw [(List.mem_replicate.mp hl).2]
  exact hv

/-- the repeat codes 16, 17, 18: the model selects the number of extra bits and the offset by `code - 16` -/
theorem repeat_code {code : Nat} (h16 : ¬ code < 16) (h19 : code < 19) :
    ¬ code - 16 > 2 ∧
    (if code - 16 = 0 then 2 else if code - 16 = 1 then 3 else 7) = (if code = 16 then 2 else if code = 17 then 3 else 7) ∧
    (if code - 16 = 2 then 11 else 3) = (if code = 16 then 3 else if code = 17 then 3 else 11) ∧
    1 ≤ (if code = 16 then 3 else if code = 17 then 3 else 11) := by
  obtain rfl | rfl | rfl : code = 16 ∨ code = 17 ∨ code = 18 := by omega
  all_goals decide

/-- **the symbol loop of `read_huffman_code_lengths` is the specification's code-length loop**:
    the model fills a preallocated zero vector where the specification appends, and both return
    `n` lengths, none above 15 -/
theorem both_loop (clcl : List Nat) (table : Built) (hT : TreeIs table clcl) (hlen19 : clcl.length = 19) (n : Nat) :
    ∀ (fuel maxSymbol prev symbol : Nat) (cl : Array Nat) (lens : List Nat) (k : Nat) (bits : List Nat), Bits01 bits →
      lens.length = symbol → symbol + k = n → cl.toList = lens ++ List.replicate k 0 → k < fuel → (∀ l ∈ lens, l ≤ 15) → prev ≤ 15 →
      Both (fun cl' out => cl'.toList = out ∧ out.length = n ∧ ∀ l ∈ out, l ≤ 15)
        (lengthsLoop table n fuel symbol maxSymbol prev cl bits) (readLens n clcl maxSymbol prev fuel lens bits) := by
  intro fuel
  induction fuel with
  | zero => intro _ _ _ _ _ _ _ _ _ _ _ h; cases h
  | succ fuel ih =>
    intro maxSymbol prev symbol cl lens k bits hb hsym hn hcl hfuel hl15 hp15
    subst hsym
    have hend : Both (fun cl' out => cl'.toList = out ∧ out.length = n ∧ ∀ l ∈ out, l ≤ 15)
        (some (cl, bits)) (some (lens ++ List.replicate k 0, bits)) :=
      ⟨rfl, hb, hcl, by rw [List.length_append, List.length_replicate, hn],
        List.forall_mem_append.mpr ⟨hl15, all_le_replicate (Nat.zero_le _)⟩⟩
    unfold lengthsLoop lengthsStep
    cases maxSymbol with
    | zero =>
      unfold readLens
      rw [if_pos rfl, ite_self, Nat.sub_eq_of_eq_add' hn.symm]
      exact hend
    | succ tokens =>
      unfold readLens
      rw [if_neg (Nat.succ_ne_zero _)]
      cases k with
      | zero =>
        rw [Nat.add_zero] at hn
        subst hn
        rw [if_neg (Nat.lt_irrefl _), if_pos (Nat.le_refl _)]
        rw [List.replicate_zero, List.append_nil] at hend
        exact hend
      | succ k =>
        have hlt : lens.length < n := hn ▸ Nat.lt_add_of_pos_right (Nat.succ_pos k)
        rw [if_pos hlt, if_neg (Nat.not_le_of_gt hlt)]
        dsimp only
        rw [hT bits hb]
        cases hd : decodeSymbol clcl bits with
        | none => exact Both.fail
        | some r =>
          obtain ⟨code, bits'⟩ := r
          obtain ⟨hc19, hb'⟩ := decodeSymbol_sound clcl bits code bits' hd hb
          rw [hlen19] at hc19
          dsimp only
          by_cases h16 : code < 16
          · rw [if_pos h16, if_pos h16]
            have hc15 : code ≤ 15 := Nat.le_of_lt_succ h16
            exact ih tokens (if code ≠ 0 then code else prev) _ _ (lens ++ [code]) k bits' hb' List.length_append ((Nat.add_right_comm ..).trans hn)
              (by rw [Array.toList_setIfInBounds, hcl, set_at_len]) (Nat.lt_of_succ_lt_succ hfuel)
              (List.forall_mem_append.mpr ⟨hl15, fun l hl => by rw [List.mem_singleton.mp hl]; exact hc15⟩) (by split; exacts [hc15, hp15])
          · obtain ⟨h18, e1, e2, hoff⟩ := repeat_code h16 hc19
            rw [if_neg h16, if_neg h16, if_neg h18, e1, e2, readBits_eq]
            rcases readBitsL_cases (if code = 16 then 2 else if code = 17 then 3 else 7) bits' hb' with hr | ⟨r, bits'', hr, hb'', _⟩
            · rw [hr]
              exact Both.fail
            · rw [hr]
              dsimp only
              generalize hrep : r + (if code = 16 then 3 else if code = 17 then 3 else 11) = rep
              generalize hv : (if code = 16 then prev else 0) = v
              have hv15 : v ≤ 15 := by rw [← hv]; split; exacts [hp15, Nat.zero_le _]
              by_cases hover : lens.length + rep > n
              · rw [if_pos hover, if_pos hover]
                exact Both.fail
              · rw [if_neg hover, if_neg hover]
                obtain ⟨k', hk'⟩ := Nat.exists_eq_add_of_le (Nat.le_of_add_le_add_left (hn ▸ Nat.le_of_not_gt hover))
                rw [hk'] at hcl
                exact ih tokens prev _ _ (lens ++ List.replicate rep v) k' bits'' hb'' (by rw [List.length_append, List.length_replicate])
                  (by omega) (fillRun_toList rep cl lens _ k' v rfl hcl) (by omega) (List.forall_mem_append.mpr ⟨hl15, all_le_replicate hv15⟩) hp15
/-- the lengths `ReadCode` returns for a simple code with the two symbols `a` and `b` -/
def twoHot (n a b : Nat) : List Nat := ((List.replicate n 0).set a 1).set b 1

theorem twoHot_countP (n a b : Nat) (hab : a < b) (hb : b < n) (p : Nat → Bool) (h0 : p 0 = false) (h1 : p 1 = true) :
    ((twoHot n a b).filter p).length = 2 := by
  unfold twoHot
  rw [← List.countP_eq_length_filter, List.countP_set (by rw [List.length_set, List.length_replicate]; exact hb),
    List.countP_set (List.length_replicate.symm ▸ Nat.lt_trans hab hb), List.countP_replicate,
    List.getElem_set_ne (by omega), List.getElem_replicate, List.getElem_replicate, h0, h1]
  rfl

/-- the smaller symbol gets the code word 0, the larger one 1: ranks grow with the symbol and
    stay below the number of symbols of that length -/
theorem twoHot_facts (n a b : Nat) (hab : a < b) (hb : b < n) :
    ((twoHot n a b).filter (· ≠ 0)).length = 2 ∧ canonicalCode (twoHot n a b) a = some 0 ∧ canonicalCode (twoHot n a b) b = some 1 ∧
    (twoHot n a b).getD a 0 = 1 ∧ (twoHot n a b).getD b 0 = 1 := by
  have hbr : b < (List.replicate n 0).length := List.length_replicate.symm ▸ hb
  have hbl : b < (twoHot n a b).length := by unfold twoHot; rw [List.length_set, List.length_set]; exact hbr
  have hal := Nat.lt_trans hab hbl
  have ga : (twoHot n a b).getD a 0 = 1 := by
    unfold twoHot
    rw [List.getD_eq_getElem?_getD, List.getElem?_set_ne (Nat.ne_of_gt hab), List.getElem?_set_self (Nat.lt_trans hab hbr)]
    rfl
  have gb : (twoHot n a b).getD b 0 = 1 := by
    unfold twoHot
    rw [List.getD_eq_getElem?_getD, List.getElem?_set_self (by rw [List.length_set]; exact hbr)]
    rfl
  have r1 := rank_mono (twoHot n a b) a b 1 hab (Nat.le_of_lt hbl) ga
  have r2 := rank_lt_blCount (twoHot n a b) b hbl
  rw [gb, show blCount (twoHot n a b) 1 = 2 from twoHot_countP n a b hab hb (· == 1) rfl rfl] at r2
  have ca := canonical_at (twoHot n a b) a hal (by rw [ga]; decide)
  have cb := canonical_at (twoHot n a b) b hbl (by rw [gb]; decide)
  rw [ga] at ca
  rw [gb] at cb
  rw [show nextCode (twoHot n a b) 1 = 0 from rfl, Nat.zero_add] at ca cb
  refine ⟨twoHot_countP n a b hab hb _ (by decide) (by decide), ?_, ?_, ga, gb⟩
  · rw [ca]; congr 1; omega
  · rw [cb]; congr 1; omega

/-- **`build_two_node(a, b)` reads like the canonical code with the two symbols `a < b`** -/
theorem twoNode_spec (n a b : Nat) (hab : a < b) (hb : b < n) (hn : n ≤ 5000) : TreeIs (twoNode a b) (twoHot n a b) := by
  obtain ⟨h2, ca, cb, la, lb⟩ := twoHot_facts n a b hab hb
  have ha : a < n := Nat.lt_trans hab hb
  -- the peek `v` selects the symbol `s`, whose code word is the first bit
  have hlook : ∀ (v x s : Nat), v % (1 + 1) = x → (#[65536 + a, 65536 + b] : Array Nat)[x]! = 1 * 65536 + s → s < n →
      look { tree := #[.leaf a, .leaf b, .empty], table := #[65536 + a, 65536 + b], mask := 1 } v = some (s, 1) := by
    intro v x s hv he hs
    -- `hn` is needed only here: the symbol `s < n` has to fit below the entry marker 65536
    exact look_entry _ v 1 s (by rw [← he, ← hv]) (by decide) (by omega)
  intro bs hbs
  unfold decodeSymbol
  rw [if_neg (by rw [h2]; decide)]
  unfold readSym twoNode
  dsimp only
  cases bs with
  | nil => rw [hlook (peek16 []) 0 a rfl (by rw [Nat.one_mul]; rfl) ha]; rfl
  | cons x rest =>
    have hx : x < 2 := hbs x List.mem_cons_self
    have hpeek : peek16 (x :: rest) % (1 + 1) = x := by
      unfold peek16
      rw [List.take_succ_cons, lsbVal, Nat.add_mul_mod_self_left, Nat.mod_eq_of_lt hx]
    have hm : msbBits x 1 = [x] := by
      unfold msbBits
      simp only [List.range_one, List.map_cons, List.map_nil, Nat.sub_self, Nat.pow_zero, Nat.div_one]
      rw [Nat.mod_eq_of_lt hx]
    obtain ⟨s, hs, hc, hl, he⟩ : ∃ s, s < n ∧ canonicalCode (twoHot n a b) s = some x ∧ (twoHot n a b).getD s 0 = 1 ∧
        (#[65536 + a, 65536 + b] : Array Nat)[x]! = 1 * 65536 + s := by
      obtain rfl | rfl : x = 0 ∨ x = 1 := by omega
      · exact ⟨a, ha, ca, la, by rw [Nat.one_mul]; rfl⟩
      · exact ⟨b, hb, cb, lb, by rw [Nat.one_mul]; rfl⟩
    have hd := decodeSym_canonical (twoHot n a b) s x 15 hc (by rw [hl]; exact hx) (by rw [hl]; decide) rest
    rw [hl, hm] at hd
    rw [hlook _ x s hpeek he hs, show x :: rest = [x] ++ rest from rfl, hd]
    rfl

theorem single_spec (n z : Nat) (hz : z < n) : TreeIs (.single z) ((List.replicate n 0).set z 1) := by
  intro bs _
  exact (EncRT.decodeSymbol_oneHot n z hz bs).symm

theorem order_eq : Gen.Tables.CODE_LENGTH_CODE_ORDER = clOrder := by decide

theorem readCodeLengths_ok (clcl : List Nat) (n : Nat) (bits : List Nat) (h : build clcl ≠ .err) :
    readCodeLengths clcl n bits = readCodeLengthsWith (build clcl) n bits := by
  unfold readCodeLengths
  cases hb : build clcl with
  | err => exact absurd hb h
  | single z => rfl
  | ok t => rfl

theorem both_loop_build (clcl : List Nat) (table : Built) (hT : TreeIs table clcl) (h19 : clcl.length = 19) (n : Nat) (hn : n ≤ 5000)
    (maxSymbol : Nat) (bits : List Nat) (hb : Bits01 bits) :
    Both TreeIs (match (match lengthsLoop table n (n + 1) 0 maxSymbol 8 (Array.replicate n 0) bits with
                  | none => none
                  | some (cl, bits) => some (cl.toList, bits)) with
           | none => none
           | some (lens, bits) => match build lens with | .err => none | t => some (t, bits))
      (match readLens n clcl maxSymbol 8 (n + 1) [] bits with
        | none => none
        | some (lens, bits) => if validLengths lens then some (lens, bits) else none) := by
  have hl := both_loop clcl table hT h19 n (n + 1) maxSymbol 8 0 (Array.replicate n 0) [] n bits hb rfl (Nat.zero_add n)
    Array.toList_replicate (Nat.lt_succ_self n) (fun l hl => by cases hl) (by decide)
  rcases hl.cases with ⟨e1, e2⟩ | ⟨cl, out, bits', e1, e2, hb', rfl, p1, p2⟩
  · rw [e1, e2]
    exact Both.fail
  · rw [e1, e2]
    exact both_build cl.toList bits' p2 (by rw [p1]; exact hn) hb'

/-- `read_huffman_code` against `ReadCode`, with what the stream structure needs besides: the
    rest of the stream is a bit string again -/
theorem read_code_both (alphabet : Nat) (h2 : 2 ≤ alphabet) (h5000 : alphabet ≤ 5000) (bits : List Nat) (hb : Bits01 bits) :
    Both TreeIs (readCode alphabet bits) (readCodeL alphabet bits) := by
  unfold readCode readCodeL
  refine Both.bind Both.fail (readBits_both 1 hb) fun simple b1 hb1 => ?_
  by_cases hs : simple = 1
  · rw [if_pos hs, if_pos hs]
    refine Both.bind Both.fail (readBits_both 1 hb1) fun n1 b2 hb2 => ?_
    rw [readBits_eq]
    rcases readBitsL_cases 1 b2 hb2 with hf | ⟨first8, b3, hf, hb3, hf2⟩
    · rw [hf]
      exact Both.fail
    rw [hf]
    dsimp only
    have e : 1 + 7 * first8 = if first8 = 1 then 8 else 1 := by
      obtain rfl | rfl : first8 = 0 ∨ first8 = 1 := by omega
      · rfl
      · rfl
    rw [e]
    refine Both.bind Both.fail (readBits_both _ hb3) fun s0 b4 hb4 => ?_
    by_cases hza : s0 ≥ alphabet
    · rw [if_pos hza, if_pos hza]
      exact Both.fail
    rw [if_neg hza, if_neg hza]
    have hs0 : s0 < alphabet := Nat.lt_of_not_le hza
    by_cases hn : n1 = 0
    · rw [if_pos (congrArg Nat.succ hn), if_pos hn]
      exact ⟨rfl, hb4, single_spec alphabet s0 hs0⟩
    rw [if_neg (mt Nat.succ.inj hn), if_neg hn]
    refine Both.bind Both.fail (readBits_both 8 hb4) fun s1 b5 hb5 => ?_
    by_cases hoa : s1 ≥ alphabet
    · rw [if_pos hoa, if_pos hoa]
      exact Both.fail
    rw [if_neg hoa, if_neg hoa]
    -- two symbols in either order, or the same symbol twice
    by_cases hlt : s0 < s1
    · rw [if_pos hlt]
      exact ⟨rfl, hb5, twoNode_spec alphabet s0 s1 hlt (Nat.lt_of_not_le hoa) h5000⟩
    rw [if_neg hlt]
    by_cases hgt : s0 > s1
    · rw [if_pos hgt, List.set_comm 1 1 (Nat.ne_of_gt hgt)]
      exact ⟨rfl, hb5, twoNode_spec alphabet s1 s0 hgt hs0 h5000⟩
    rw [if_neg hgt, Nat.le_antisymm (Nat.le_of_not_lt hlt) (Nat.le_of_not_lt hgt), List.set_set]
    exact ⟨rfl, hb5, single_spec alphabet s0 hs0⟩
  · rw [if_neg hs, if_neg hs]
    refine Both.bind Both.fail (readBits_both 4 hb1) fun n4 b2 hb2 => ?_
    rw [readClcl_eq, order_eq, show Gen.Tables.CODE_LENGTH_CODES = 19 from rfl]
    cases hc : readClLens (List.take (4 + n4) clOrder) (List.replicate 19 0) b2 with
    | none => exact Both.fail
    | some r3 =>
      obtain ⟨clcl, b3⟩ := r3
      obtain ⟨hb3, hlen, hle7⟩ := readClLens_rest _ _ _ _ _ hc hb2
      have h19 : clcl.length = 19 := by rw [hlen, List.length_replicate]
      have hall7 : ∀ l ∈ clcl, l ≤ 7 := hle7 (all_le_replicate (Nat.zero_le _))
      have hall15 : ∀ l ∈ clcl, l ≤ 15 := fun l hl => Nat.le_trans (hall7 l hl) (by decide)
      have h5k : clcl.length ≤ 5000 := by rw [h19]; decide
      dsimp only
      -- the code-length code is rejected by `build_implicit` exactly when it is not valid
      by_cases hv : validLengths clcl = true
      · obtain ⟨hne, hT⟩ := (build_spec clcl hall15 h5k).1 hv
        rw [hv, readCodeLengths_ok clcl alphabet b3 hne]
        simp only [Bool.not_true, Bool.false_eq_true, if_false]
        unfold readCodeLengthsWith
        rw [readBits_eq]
        rcases readBitsL_cases 1 b3 hb3 with hu | ⟨useMax, b4, hu, hb4, _⟩
        · rw [hu]
          exact Both.fail
        rw [hu]
        dsimp only
        by_cases hmax : useMax = 1
        · rw [if_pos hmax, if_pos hmax]
          rw [readBits_eq]
          rcases readBitsL_cases 3 b4 hb4 with h3 | ⟨n3, b5, h3, hb5, _⟩
          · rw [h3]
            exact Both.fail
          rw [h3]
          dsimp only
          rw [readBits_eq]
          rcases readBitsL_cases (2 + 2 * n3) b5 hb5 with hm | ⟨ms, b6, hm, hb6, _⟩
          · rw [hm]
            exact Both.fail
          rw [hm]
          dsimp only
          by_cases hover : ms > alphabet - 2
          · rw [if_pos hover, if_pos ((Nat.sub_lt_iff_lt_add' h2).mp hover)]
            exact Both.fail
          · rw [if_neg hover, if_neg (mt (Nat.sub_lt_iff_lt_add' h2).mpr hover)]
            exact both_loop_build clcl _ hT h19 alphabet h5000 (2 + ms) b6 hb6
        · rw [if_neg hmax, if_neg hmax]
          exact both_loop_build clcl _ hT h19 alphabet h5000 alphabet b4 hb4
      · unfold readCodeLengths
        rw [(build_spec clcl hall15 h5k).2 hv, Bool.not_eq_true _ |>.mp hv]
        exact Both.fail
/-- model and specification agree: both reject, or both accept with the same rest of the stream
    and a tree that reads like the specification's decoder for the lengths -/
def Agree (m : Option (Built × List Nat)) (s : Option (List Nat × List Nat)) : Prop :=
  match m, s with
  | none, none => True
  | some (t, r), some (lens, r') => r = r' ∧ TreeIs t lens
  | _, _ => False

/-- **`read_huffman_code` is the specification's `ReadCode`**, for every alphabet size of the
    format and every bit string -/
theorem read_code_is_spec (alphabet : Nat) (h2 : 2 ≤ alphabet) (h5000 : alphabet ≤ 5000) (bits : List Nat) (hb : Bits01 bits) :
    Agree (readCode alphabet bits) (readCodeL alphabet bits) := by
  rcases (read_code_both alphabet h2 h5000 bits hb).cases with ⟨e1, e2⟩ | ⟨t, lens, r, e1, e2, _, hT⟩
  · rw [e1, e2]
    trivial
  · rw [e1, e2]
    exact ⟨rfl, hT⟩

end CodeReadProof
