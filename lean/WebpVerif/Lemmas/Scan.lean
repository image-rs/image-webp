import WebpVerif.Model.Container
import WebpVerif.Lemmas.Riff

/-!
Reading back files as the harness's assembler lays them out.  The reader primitives of `read_data`
are evaluated on data known to continue, from the reader's position on, with given bytes (`At`).
The chunk table keeps first bindings, so a name ends up bound to its `firstRange` in the chunk
sequence, and the bytes of that range are the chunk's payload: what a metadata accessor returns.
-/
namespace ScanProof
open Container EncContainer

/-- from position `p` on, the data `F` consists of exactly `s` -/
def At (F : List Nat) (p : Nat) (s : List Nat) : Prop := ∃ pre, F = pre ++ s ∧ pre.length = p

theorem at_zero (F : List Nat) : At F 0 F := ⟨[], rfl, rfl⟩

theorem at_length {F s : List Nat} {p : Nat} (h : At F p s) : F.length = p + s.length := by
  obtain ⟨pre, rfl, rfl⟩ := h
  exact List.length_append

theorem at_le {F s : List Nat} {p : Nat} (h : At F p s) : p ≤ F.length :=
  at_length h ▸ Nat.le_add_right ..

theorem at_read {F a s : List Nat} {p n : Nat} (h : At F p (a ++ s)) (hn : a.length = n) :
    readExact n ⟨F, p⟩ = .ok (a, ⟨F, p + n⟩) ∧ At F (p + n) s := by
  obtain ⟨pre, rfl, rfl⟩ := h
  subst hn
  refine ⟨?_, pre ++ a, (List.append_assoc ..).symm, List.length_append⟩
  unfold readExact
  simp only
  rw [if_pos (by simp only [List.length_append]; omega), List.drop_left' rfl, List.take_left' rfl]

theorem at_readLE {F a s : List Nat} {p n : Nat} (h : At F p (a ++ s)) (hn : a.length = n) :
    readLE n ⟨F, p⟩ = .ok (le a, ⟨F, p + n⟩) ∧ At F (p + n) s := by
  obtain ⟨e, h'⟩ := at_read h hn
  exact ⟨by rw [readLE, e], h'⟩

theorem at_readU8 {F s : List Nat} {p b : Nat} (h : At F p ([b] ++ s)) :
    readU8 ⟨F, p⟩ = .ok (b, ⟨F, p + 1⟩) ∧ At F (p + 1) s := by
  obtain ⟨e, h'⟩ := at_read (n := 1) h rfl
  exact ⟨by rw [readU8, e]; rfl, h'⟩

theorem at_header {F cc z s : List Nat} {p : Nat} (h : At F p (cc ++ (z ++ s))) (hcc : cc.length = 4) (hz : z.length = 4) :
    readChunkHeader ⟨F, p⟩ = .ok ((cc, le z, min (le z + le z % 2) (2 ^ 32 - 1)), ⟨F, p + 8⟩) ∧ At F (p + 8) s := by
  obtain ⟨e1, h1⟩ := at_read h hcc
  obtain ⟨e2, h2⟩ := at_readLE h1 hz
  exact ⟨by rw [readChunkHeader, e1]; simp only; rw [e2], h2⟩

/-- `Container.le` and the specification's `Riff.le` are the same fold, so `EncContainer.le_le32`
    (about `Riff.le`) applies as it stands -/
theorem le_le32 (n : Nat) (h : n < 2 ^ 32) : le (le32 n) = n := EncContainer.le_le32 n h

theorem at_header32 {F cc s : List Nat} {p n : Nat} (h : At F p (cc ++ (le32 n ++ s))) (hcc : cc.length = 4) (hn : n < 2 ^ 32) :
    readChunkHeader ⟨F, p⟩ = .ok ((cc, n, min (n + n % 2) (2 ^ 32 - 1)), ⟨F, p + 8⟩) ∧ At F (p + 8) s := by
  have := at_header h hcc rfl
  rwa [le_le32 n hn] at this

theorem at_eof {F : List Nat} {p : Nat} (h : At F p []) : readChunkHeader ⟨F, p⟩ = .error .ioEof := by
  have := at_length h
  unfold readChunkHeader readExact
  simp only
  rw [if_neg (by rw [this]; simp)]

theorem seekRel_to (r : Reader) (off : Int) (q : Nat) (h : (r.pos : Int) + off = q) :
    seekRel off r = .ok ((), { r with pos := q }) := by
  unfold seekRel
  rw [h, if_neg (Int.not_lt.mpr (Int.natCast_nonneg q))]
  rfl

theorem fourcc_len : RIFF.length = 4 ∧ WEBP.length = 4 ∧ VP8.length = 4 ∧ VP8L.length = 4 ∧ VP8X.length = 4 ∧
    ANMF.length = 4 := by decide

/-- which arm of `read_data` a first chunk selects -/
theorem fourcc_arm : (VP8 == VP8) = true ∧ (VP8L == VP8) = false ∧ (VP8L == VP8L) = true ∧
    (VP8X == VP8) = false ∧ (VP8X == VP8L) = false ∧ (VP8X == VP8X) = true := by decide

/-- what `read_data` reads first, whatever the layout: RIFF header, `WEBP`, a chunk header -/
theorem riff_prefix {F cc s : List Nat} {riffSize size : Nat}
    (hF : F = RIFF ++ (le32 riffSize ++ (WEBP ++ (cc ++ (le32 size ++ s)))))
    (hrs : riffSize < 2 ^ 32) (hcc : cc.length = 4) (hsz : size < 2 ^ 32) :
    readChunkHeader ⟨F, 0⟩ = .ok ((RIFF, riffSize, min (riffSize + riffSize % 2) (2 ^ 32 - 1)), ⟨F, 8⟩) ∧
    readExact 4 ⟨F, 8⟩ = .ok (WEBP, ⟨F, 12⟩) ∧
    readChunkHeader ⟨F, 12⟩ = .ok ((cc, size, min (size + size % 2) (2 ^ 32 - 1)), ⟨F, 20⟩) ∧
    At F 20 s := by
  obtain ⟨l1, l2, _⟩ := fourcc_len
  subst hF
  obtain ⟨e1, h1⟩ := at_header32 (at_zero _) l1 hrs
  obtain ⟨e2, h2⟩ := at_read h1 l2
  obtain ⟨e3, h3⟩ := at_header32 h2 hcc hsz
  exact ⟨e1, e2, e3, h3⟩

theorem get_orInsert_new (ch : Chunks) (k : List Nat) (v : Nat × Nat) (h : ch.get? k = none) :
    (ch.orInsert k v).get? k = some v := by
  unfold Chunks.orInsert
  rw [h]
  simp only [Option.isSome_none, Bool.false_eq_true, if_false]
  unfold Chunks.get? at h ⊢
  rw [List.find?_append]
  cases hf : List.find? (fun x => x.1 == k) ch with
  | some x => rw [hf] at h; simp at h
  | none => simp

theorem get_orInsert_old (ch : Chunks) (k : List Nat) (v v' : Nat × Nat) (h : ch.get? k = some v) :
    (ch.orInsert k v').get? k = some v := by
  unfold Chunks.orInsert; rw [h]; simp [h]

theorem get_orInsert_other (ch : Chunks) (k k' : List Nat) (v' : Nat × Nat) (hne : k' ≠ k) :
    (ch.orInsert k' v').get? k = ch.get? k := by
  unfold Chunks.orInsert
  split
  · rfl
  · unfold Chunks.get?
    rw [List.find?_append]
    cases h : List.find? (fun x => x.1 == k) ch with
    | some x => simp
    | none => simp [hne]

def layout (cs : List (List Nat × List Nat)) : List Nat := cs.flatMap fun c => chunkBytes c.1 c.2

theorem layout_cons (c : List Nat × List Nat) (cs : List (List Nat × List Nat)) :
    layout (c :: cs) = chunkBytes c.1 c.2 ++ layout cs := List.flatMap_cons

/-- a whole chunk as `write_chunk` printed it -/
theorem at_chunk {F s : List Nat} {p : Nat} (c : List Nat × List Nat) (hok : ChunkOk c) (h : At F p (chunkBytes c.1 c.2 ++ s)) :
    readChunkHeader ⟨F, p⟩ = .ok ((c.1, c.2.length, c.2.length + c.2.length % 2), ⟨F, p + 8⟩) ∧
    At F (p + 8) (c.2 ++ (pad c.2 ++ s)) ∧ At F (p + 8 + (c.2.length + c.2.length % 2)) s := by
  obtain ⟨hn, hl⟩ := hok
  rw [chunkBytes_eq, Nat.mod_eq_of_lt (Nat.lt_of_succ_lt hl)] at h
  simp only [List.append_assoc] at h
  obtain ⟨e, h1⟩ := at_header32 h hn (Nat.lt_of_succ_lt hl)
  rw [Nat.min_eq_left (by omega)] at e
  obtain ⟨_, h2⟩ := at_read h1 rfl
  obtain ⟨_, h3⟩ := at_read h2 (pad_length c.2)
  exact ⟨e, h1, by rwa [Nat.add_assoc] at h3⟩

/-- payload range of the first chunk named `k` in a chunk sequence laid out from `base` -/
def firstRange (k : List Nat) : Nat → List (List Nat × List Nat) → Option (Nat × Nat)
  | _, [] => none
  | base, c :: rest =>
    if c.1 = k then some (base + 8, base + 8 + c.2.length)
    else firstRange k (base + 8 + c.2.length + c.2.length % 2) rest

/-- what the scan loop does to the table for a chunk `c` whose header starts at `p` -/
def reg (ch : Chunks) (p : Nat) (c : List Nat × List Nat) : Chunks :=
  if known.contains c.1 then ch.orInsert c.1 (p + 8, p + 8 + c.2.length) else ch

/-- registering one chunk, then looking among the rest = looking among all: first occurrences win -/
theorem reg_get (ch : Chunks) (p : Nat) (c : List Nat × List Nat) (rest : List (List Nat × List Nat))
    (k : List Nat) (hk : k ∈ known) :
    ((reg ch p c).get? k).orElse (fun _ => firstRange k (p + 8 + (c.2.length + c.2.length % 2)) rest) =
      (ch.get? k).orElse (fun _ => firstRange k p (c :: rest)) := by
  unfold reg
  rw [firstRange, ← Nat.add_assoc]
  by_cases hck : c.1 = k
  · rw [if_pos (by rw [hck]; simpa using hk), if_pos hck, hck]
    cases hg : ch.get? k with
    | none => rw [get_orInsert_new _ _ _ hg]; rfl
    | some v => rw [get_orInsert_old _ _ _ _ hg]; rfl
  · rw [if_neg hck]
    split
    · rw [get_orInsert_other _ _ _ _ hck]
    · rfl

theorem firstRange_absent (k : List Nat) : ∀ (cs : List (List Nat × List Nat)) (b : Nat),
    (∀ c ∈ cs, c.1 ≠ k) → firstRange k b cs = none := by
  intro cs
  induction cs with
  | nil => intro b _; rfl
  | cons c rest ih =>
    intro b h
    rw [firstRange, if_neg (h c List.mem_cons_self)]
    exact ih _ (fun c' hc' => h c' (List.mem_cons_of_mem _ hc'))

theorem firstRange_payload {F : List Nat} (k : List Nat) : ∀ (cs : List (List Nat × List Nat)) (p a b : Nat),
    (∀ c ∈ cs, ChunkOk c) → At F p (layout cs) → firstRange k p cs = some (a, b) →
    ∃ c ∈ cs, c.1 = k ∧ b = a + c.2.length ∧ ∃ s, At F a (c.2 ++ s) := by
  intro cs
  induction cs with
  | nil => intro p a b _ _ h; cases h
  | cons c rest ih =>
    intro p a b hall hat h
    rw [layout_cons] at hat
    obtain ⟨_, h1, h2⟩ := at_chunk c (hall c List.mem_cons_self) hat
    rw [firstRange] at h
    by_cases hck : c.1 = k
    · rw [if_pos hck] at h
      obtain ⟨rfl, rfl⟩ := Prod.mk.inj (Option.some.inj h)
      exact ⟨c, List.mem_cons_self, hck, rfl, _, h1⟩
    · rw [if_neg hck, Nat.add_assoc] at h
      obtain ⟨c', hc', e⟩ := ih _ a b (fun c' hc' => hall c' (List.mem_cons_of_mem _ hc')) h2 h
      exact ⟨c', List.mem_cons_of_mem _ hc', e⟩

theorem readChunk_at {F d s : List Nat} {a : Nat} (ch : Chunks) (k : List Nat) (limit q : Nat)
    (hget : ch.get? k = some (a, a + d.length)) (hat : At F a (d ++ s)) :
    readChunk ch k limit ⟨F, q⟩ =
      if d.length > limit then .error .memoryLimitExceeded else .ok (some d, ⟨F, a + d.length⟩) := by
  unfold readChunk
  rw [hget]
  simp only [Nat.add_sub_cancel_left]
  split
  · rfl
  · rw [(at_read hat rfl).1]

def le24 (n : Nat) : List Nat := [n % 256, n / 256 % 256, n / 65536 % 256]

theorem le_le24 (n : Nat) (h : n < 2 ^ 24) : le (le24 n) = n := le_take3 n h

/-- the ten payload bytes of a VP8X chunk -/
def vp8xPayload (flags r0 r1 r2 cw ch : Nat) : List Nat :=
  [flags, r0, r1, r2] ++ le24 (cw - 1) ++ le24 (ch - 1)

/-- an extended file: RIFF header, VP8X chunk, then the chunks `cs` -/
def extendedFile (flags r0 r1 r2 cw ch : Nat) (cs : List (List Nat × List Nat)) : List Nat :=
  RIFF ++ (le32 (22 + (layout cs).length) ++ (WEBP ++
    (chunkBytes VP8X (vp8xPayload flags r0 r1 r2 cw ch) ++ layout cs)))

theorem vp8xPayload_length (flags r0 r1 r2 cw ch : Nat) : (vp8xPayload flags r0 r1 r2 cw ch).length = 10 := rfl

theorem vp8xPayload_pad (flags r0 r1 r2 cw ch : Nat) : pad (vp8xPayload flags r0 r1 r2 cw ch) = [] := by
  rw [pad, vp8xPayload_length]; rfl

/-- the chunks of an extended file start at offset 30: 12 bytes of RIFF header, 18 of VP8X chunk -/
theorem extendedFile_at (flags r0 r1 r2 cw ch : Nat) (cs : List (List Nat × List Nat)) :
    At (extendedFile flags r0 r1 r2 cw ch cs) 30 (layout cs) := by
  obtain ⟨l1, l2, _, _, l5, _⟩ := fourcc_len
  have h1 := (at_read (at_zero (extendedFile flags r0 r1 r2 cw ch cs)) l1).2
  have h2 := (at_read h1 (le32_length _)).2
  have h3 := (at_read h2 l2).2
  have h18 : (chunkBytes VP8X (vp8xPayload flags r0 r1 r2 cw ch)).length = 18 := by
    rw [chunkBytes_length VP8X _ l5, vp8xPayload_length]
  exact (at_read h3 h18).2

/-- `read_data` on an extended file up to the scan loop -/
theorem extended_prefix (flags r0 r1 r2 cw ch : Nat) (cs : List (List Nat × List Nat)) {F : List Nat}
    (hF : F = extendedFile flags r0 r1 r2 cw ch cs) (hsize : 22 + (layout cs).length < 2 ^ 32)
    (hcw : 1 ≤ cw ∧ cw ≤ 2 ^ 24) (hch : 1 ≤ ch ∧ ch ≤ 2 ^ 24) :
    readChunkHeader ⟨F, 0⟩ = .ok ((RIFF, 22 + (layout cs).length,
      min (22 + (layout cs).length + (22 + (layout cs).length) % 2) (2 ^ 32 - 1)), ⟨F, 8⟩) ∧
    readExact 4 ⟨F, 8⟩ = .ok (WEBP, ⟨F, 12⟩) ∧
    readChunkHeader ⟨F, 12⟩ = .ok ((VP8X, 10, 10), ⟨F, 20⟩) ∧
    readU8 ⟨F, 20⟩ = .ok (flags, ⟨F, 21⟩) ∧ readLE 3 ⟨F, 21⟩ = .ok (le [r0, r1, r2], ⟨F, 24⟩) ∧
    readLE 3 ⟨F, 24⟩ = .ok (cw - 1, ⟨F, 27⟩) ∧ readLE 3 ⟨F, 27⟩ = .ok (ch - 1, ⟨F, 30⟩) := by
  obtain ⟨e1, e2, e3, h20⟩ := riff_prefix (F := F)
    (s := [flags] ++ ([r0, r1, r2] ++ (le24 (cw - 1) ++ (le24 (ch - 1) ++ layout cs))))
    (by rw [hF, extendedFile, chunkBytes_eq, vp8xPayload_pad, vp8xPayload_length]; simp only [List.append_assoc]; rfl) hsize fourcc_len.2.2.2.2.1 (by decide : 10 < 2 ^ 32)
  obtain ⟨e4, h21⟩ := at_readU8 h20
  obtain ⟨e5, h24⟩ := at_readLE (n := 3) h21 rfl
  obtain ⟨e6, h27⟩ := at_readLE (n := 3) h24 rfl
  obtain ⟨e7, _⟩ := at_readLE (n := 3) h27 rfl
  rw [le_le24 _ (Nat.sub_one_lt_of_le hcw.1 hcw.2)] at e6
  rw [le_le24 _ (Nat.sub_one_lt_of_le hch.1 hch.2)] at e7
  exact ⟨e1, e2, e3, e4, e5, e6, e7⟩

def has (k : List Nat) (cs : List (List Nat × List Nat)) : Bool := (firstRange k 30 cs).isSome

/-- a metadata accessor on such a file: the payload of the FIRST chunk of that name, exactly;
    `MemoryLimitExceeded` iff that payload is larger than the limit; `None` iff there is none -/
theorem metadata_exact (flags r0 r1 r2 cw ch : Nat) (cs : List (List Nat × List Nat)) (info : Info) (k : List Nat) (limit : Nat)
    (hall : ∀ c ∈ cs, EncContainer.ChunkOk c) (hinfo : info.chunks.get? k = firstRange k 30 cs) :
    (firstRange k 30 cs = none → metadata (extendedFile flags r0 r1 r2 cw ch cs) info k limit = .ok none) ∧
    (∀ a b, firstRange k 30 cs = some (a, b) → ∃ c ∈ cs, c.1 = k ∧
      (c.2.length > limit → metadata (extendedFile flags r0 r1 r2 cw ch cs) info k limit = .error .memoryLimitExceeded) ∧
      (c.2.length ≤ limit → metadata (extendedFile flags r0 r1 r2 cw ch cs) info k limit = .ok (some c.2))) := by
  refine ⟨?_, ?_⟩
  · intro hnone
    unfold metadata readChunk
    rw [hinfo, hnone]
  · intro a b hsome
    obtain ⟨c, hc, e1, rfl, s, hat⟩ := firstRange_payload k cs 30 a b hall (extendedFile_at flags r0 r1 r2 cw ch cs) hsome
    have hrd := readChunk_at info.chunks k limit 0 (hinfo.trans hsome) hat
    refine ⟨c, hc, e1, ?_, ?_⟩
    · intro hgt
      rw [metadata, hrd, if_pos hgt]
    · intro hle
      rw [metadata, hrd, if_neg (Nat.not_lt.mpr hle)]

end ScanProof
