import WebpVerif.Lemmas.LTrans
import WebpVerif.Lemmas.ArrayWrites

/-!
The predictor-transform driver `apply_predictor_transform` (model `LTr.applyPredictor`, the code's own
processing order) computes the specification's inverse predictor transform.  Both meet in the recurrence
`Sol`: the driver keeps, over the set of finished pixels, the invariant that they hold a solution's values
(`Inv`), and the list the specification builds is a solution (`osol_sol`).
-/
namespace LTrProof
open LTr LK

theorem size_setPx (arr : Array Nat) (p : Nat) (v : List Nat) : (setPx arr p v).size = arr.size := by
  unfold setPx; simp only [Array.size_setIfInBounds]

theorem getD_setPx (arr : Array Nat) (p : Nat) (v : List Nat) (hp : 4 * p + 4 ≤ arr.size) (j : Nat) :
    (setPx arr p v).getD j 0 = if 4 * p ≤ j ∧ j < 4 * p + 4 then v.getD (j - 4 * p) 0 else arr.getD j 0 := by
  have e : setPx arr p v = (List.range 4).foldl (fun d t => d.setIfInBounds (4 * p + t) (v.getD t 0)) arr := by
    simp only [List.range_succ, List.range_zero, List.nil_append, List.foldl_append, List.foldl_cons, List.foldl_nil]
    rfl
  have := (ArrayWrites.writes_spec (fun t => v.getD t 0) (4 * p) arr 4).2 j
  rw [← e, Array.getElem!_eq_getD, Array.getElem!_eq_getD] at this
  rw [show (setPx arr p v).getD j 0 = _ from this]
  by_cases h : 4 * p ≤ j ∧ j < 4 * p + 4
  · rw [if_pos h, if_pos ⟨h.1, h.2, Nat.lt_of_lt_of_le h.2 hp⟩]
  · rw [if_neg h, if_neg (fun hh => h ⟨hh.1, hh.2.1⟩)]; rfl

theorem chans_getD (f : Nat → Nat) : (chans f).getD 0 0 = f 0 ∧ (chans f).getD 1 0 = f 1 ∧ (chans f).getD 2 0 = f 2 ∧ (chans f).getD 3 0 = f 3 :=
  ⟨rfl, rfl, rfl, rfl⟩

theorem getD_chans (f : Nat → Nat) (c : Nat) (hc : c < 4) : (chans f).getD c 0 = f c :=
  forall_lt_four (P := fun c => (chans f).getD c 0 = f c) rfl rfl rfl rfl c hc

theorem px_eq_chans {a : Array Nat} {p : Nat} {f : Nat → Nat} (h : ∀ c, c < 4 → a.getD (4 * p + c) 0 = f c) : px a p = chans f := by
  unfold px chans
  rw [← h 1 (by decide), ← h 2 (by decide), ← h 3 (by decide), ← show a.getD (4 * p) 0 = f 0 from h 0 (by decide)]

theorem getD_px (a : Array Nat) (p c : Nat) (hc : c < 4) : (px a p).getD c 0 = a.getD (4 * p + c) 0 :=
  getD_chans (fun c => a.getD (4 * p + c) 0) c hc

theorem px_congr {a b : Array Nat} (q : Nat) (h : ∀ c, c < 4 → a.getD (4 * q + c) 0 = b.getD (4 * q + c) 0) : px a q = px b q :=
  px_eq_chans h

theorem px_setPx_same (arr : Array Nat) (p : Nat) (f : Nat → Nat) (hp : 4 * p + 4 ≤ arr.size) :
    px (setPx arr p (chans f)) p = chans f :=
  px_eq_chans fun c hc => by rw [getD_setPx _ _ _ hp, if_pos ⟨Nat.le_add_right _ _, Nat.add_lt_add_left hc _⟩, Nat.add_sub_cancel_left, getD_chans f c hc]

theorem px_setPx_other (arr : Array Nat) (p q : Nat) (v : List Nat) (hp : 4 * p + 4 ≤ arr.size) (hq : q ≠ p) :
    px (setPx arr p v) q = px arr q :=
  px_congr q fun c hc => by rw [getD_setPx _ _ _ hp, if_neg (by omega)]

theorem pixAt_eq_packL (a : Array Nat) (p : Nat) : pixAt a p = packL (px a p) := rfl

theorem px_eq_bytesOf (a : Array Nat) (hb : Bytes a) (p : Nat) : px a p = bytesOf (pixAt a p) := by
  obtain ⟨c0, c1, c2, c3⟩ := ch_pixAt a hb p
  unfold bytesOf
  rw [c0, c1, c2, c3]; rfl

theorem getD_addPx (P X c : Nat) (hc : c < 4) :
    (bytesOf (VP8L.addPx P X)).getD c 0 = ((bytesOf P).getD c 0 + (bytesOf X).getD c 0) % 256 := by
  unfold VP8L.addPx
  simp only [getD_bytesOf _ c hc, ch_perCh _ _ (chanOf_lt c hc)]

theorem packL_bytesOf_addPx (P X : Nat) : packL (bytesOf (VP8L.addPx P X)) = VP8L.addPx P X := by
  have h := fun k hk => ch_perCh (fun k => VP8L.ch P k + VP8L.ch X k) k hk
  unfold VP8L.addPx packL bytesOf
  simp only [List.getD_cons_zero, List.getD_cons_succ, h 0 (by decide), h 1 (by decide), h 2 (by decide), h 3 (by decide)]
  rfl

/-- what the driver has done so far: the pixels in `D` hold their final value `O q`, the others the input -/
def Inv (a : Array Nat) (N : Nat) (O : Nat → Nat) (D : Nat → Prop) (arr : Array Nat) : Prop :=
  arr.size = a.size ∧ (∀ q, q < N → D q → px arr q = bytesOf (O q)) ∧ (∀ q, q < N → ¬ D q → px arr q = px a q)

theorem Inv_congr {a : Array Nat} {N : Nat} {O : Nat → Nat} {D D' : Nat → Prop} {arr : Array Nat}
    (h : Inv a N O D arr) (e : ∀ q, q < N → (D q ↔ D' q)) : Inv a N O D' arr :=
  ⟨h.1, fun q hq hd => h.2.1 q hq ((e q hq).mpr hd), fun q hq hd => h.2.2 q hq (fun x => hd ((e q hq).mp x))⟩

def stepWith (arr : Array Nat) (p : Nat) (pr : List Nat) : Array Nat :=
  setPx arr p (chans fun c => (arr.getD (4 * p + c) 0 + pr.getD c 0) % 256)

theorem stepPx_eq (m w : Nat) (arr : Array Nat) (p : Nat) :
    stepPx m w arr p = stepWith arr p (predPx m (px arr (p - 1)) (px arr (p - w)) (px arr (p - w + 1)) (px arr (p - w - 1))) := rfl

/-- adding the bytes of the specification's prediction `X` to an untouched pixel finishes it -/
theorem step_inv (a : Array Nat) (N : Nat) (O : Nat → Nat) (D : Nat → Prop) (arr : Array Nat) (hs : a.size = 4 * N) (hb : Bytes a)
    (hinv : Inv a N O D arr) (p : Nat) (hp : p < N) (hD : ¬ D p) (X : Nat) (hO : O p = VP8L.addPx (pixAt a p) X) :
    Inv a N O (fun q => D q ∨ q = p) (stepWith arr p (bytesOf X)) := by
  obtain ⟨hsz, hdone, hrest⟩ := hinv
  have hp4 : 4 * p + 4 ≤ arr.size := by rw [hsz, hs]; exact Nat.mul_le_mul_left 4 hp
  unfold stepWith
  refine ⟨(size_setPx _ _ _).trans hsz, fun q hq hd => ?_, fun q hq hd => ?_⟩
  · by_cases hqp : q = p
    · subst hqp
      rw [px_setPx_same _ _ _ hp4, hO]
      exact chans_eq_bytesOf _ _ fun c hc => by
        rw [getD_addPx _ _ c hc, ← px_eq_bytesOf a hb, ← hrest q hq hD, getD_px _ _ c hc]
    · rw [px_setPx_other _ _ _ _ hp4 hqp]
      exact hdone q hq (hd.resolve_right hqp)
  · rw [px_setPx_other _ _ _ _ hp4 (fun e => hd (Or.inr e))]
    exact hrest q hq (fun x => hd (Or.inl x))

theorem fold_inv {a : Array Nat} {N : Nat} {O : Nat → Nat} (P : Nat → Nat → Prop) (f : Array Nat → Nat → Array Nat) (x1 : Nat) (n : Nat) :
    ∀ (x0 : Nat) (arr : Array Nat), x0 + n = x1 → (∀ x arr, x0 ≤ x → x < x1 → Inv a N O (P x) arr → Inv a N O (P (x + 1)) (f arr x)) →
      Inv a N O (P x0) arr → Inv a N O (P x1) ((List.range' x0 n).foldl f arr) := by
  induction n with
  | zero => intro x0 arr e _ h; exact e ▸ h
  | succ n ih =>
    intro x0 arr e hstep h
    rw [List.range'_succ, List.foldl_cons]
    exact ih (x0 + 1) (f arr x0) ((Nat.add_right_comm x0 1 n).trans e) (fun x arr' h1 h2 => hstep x arr' (Nat.le_of_succ_le h1) h2) (hstep x0 arr (Nat.le_refl _) (by omega) h)

/-! Row `y`, column `x` is pixel `y * w + x`. -/

theorem rowcol_div_mod (w y x : Nat) (hx : x < w) : (y * w + x) / w = y ∧ (y * w + x) % w = x := by
  have hw : 0 < w := Nat.lt_of_le_of_lt (Nat.zero_le x) hx
  constructor
  · rw [Nat.add_comm, Nat.add_mul_div_right _ _ hw, Nat.div_eq_of_lt hx, Nat.zero_add]
  · rw [Nat.add_comm, Nat.add_mul_mod_self_right, Nat.mod_eq_of_lt hx]

theorem rowcol_lt (w h y x : Nat) (hy : y < h) (hx : x < w) : y * w + x < w * h := by
  rw [Nat.mul_comm w h]
  exact Nat.lt_of_lt_of_le (Nat.add_lt_add_left hx _) (Nat.succ_mul y w ▸ Nat.mul_le_mul_right w hy)

theorem eq_rowcol_iff (w q y x : Nat) (hx : x < w) : (q / w = y ∧ q % w = x) ↔ q = y * w + x := by
  constructor
  · rintro ⟨rfl, rfl⟩
    rw [Nat.mul_comm]; exact (Nat.div_add_mod q w).symm
  · intro h; subst h; exact rowcol_div_mod w y x hx

theorem div_lt_of_lt_N (w h q : Nat) (hw : 0 < w) (hq : q < w * h) : q / w < h := by
  rw [Nat.div_lt_iff_lt_mul hw, Nat.mul_comm]; exact hq

/-- the specification's prediction for pixel `i` when the finished pixels are `O` -/
def specPredO (O : Nat → Nat) (w bits : Nat) (d : Array Nat) (i : Nat) : Nat :=
  if i % w = 0 ∧ i / w = 0 then 0xff000000
  else if i / w = 0 then O (i - 1)
  else if i % w = 0 then O (i - w)
  else VP8L.predict (d.getD (4 * blockIdx w bits i + 1) 0) (O (i - 1)) (O (i - w)) (O (i - w + 1)) (O (i - w - 1))

/-- `O` solves the specification's recurrence: every pixel is its residual plus the prediction from `O` -/
def Sol (a d : Array Nat) (w bits N : Nat) (O : Nat → Nat) : Prop :=
  ∀ i, i < N → O i = VP8L.addPx (pixAt a i) (specPredO O w bits d i)

theorem specPredO_at (O : Nat → Nat) (w bits : Nat) (d : Array Nat) (y x : Nat) (hx : x < w) :
    specPredO O w bits d (y * w + x) =
      if x = 0 ∧ y = 0 then 0xff000000
      else if y = 0 then O (y * w + x - 1)
      else if x = 0 then O (y * w + x - w)
      else VP8L.predict (d.getD (4 * blockIdx w bits (y * w + x) + 1) 0) (O (y * w + x - 1)) (O (y * w + x - w))
        (O (y * w + x - w + 1)) (O (y * w + x - w - 1)) := by
  unfold specPredO
  rw [(rowcol_div_mod w y x hx).1, (rowcol_div_mod w y x hx).2]

/-- the pixels finished while the first column is done (`phase2`): first row and first column up to row `y` -/
def D2 (w y q : Nat) : Prop := q / w = 0 ∨ (q % w = 0 ∧ q / w < y)

/-- the pixels finished while the rows are done block by block (`rowBlocks`): rows above `y`, the first
    column, and row `y` up to column `x` -/
def D3 (w y x q : Nat) : Prop := q / w < y ∨ q % w = 0 ∨ (q / w = y ∧ q % w < x)

theorem D3_at (w y x r c : Nat) (hc : c < w) : D3 w y x (r * w + c) ↔ r < y ∨ c = 0 ∨ (r = y ∧ c < x) := by
  unfold D3; rw [(rowcol_div_mod w r c hc).1, (rowcol_div_mod w r c hc).2]

theorem D3_of_lt (w y x q : Nat) (hx : x ≤ w) (h : q < y * w + x) : D3 w y x q := by
  rcases Nat.lt_or_ge (q / w) y with hlt | hge
  · exact Or.inl hlt
  · -- `q` lies before the end of row `y`, so it lies in row `y`
    have hq : q < w * (y + 1) := by
      rw [Nat.mul_succ, Nat.mul_comm]; exact Nat.lt_of_lt_of_le h (Nat.add_le_add_left hx _)
    have he : q / w = y := Nat.le_antisymm (Nat.le_of_lt_succ (Nat.div_lt_of_lt_mul hq)) hge
    have hdm := Nat.div_add_mod q w
    rw [he, Nat.mul_comm] at hdm
    exact Or.inr (Or.inr ⟨he, by omega⟩)

theorem D3_succ (w y x q : Nat) (hx : x < w) : D3 w y x q ∨ q = y * w + x ↔ D3 w y (x + 1) q := by
  unfold D3
  rw [← eq_rowcol_iff w q y x hx, Nat.lt_succ_iff_lt_or_eq, and_or_left, or_assoc, or_assoc]

theorem blockIdx_at (w bits y x bx : Nat) (hxw : x < w) (h1 : bx * 2 ^ bits ≤ x) (h2 : x < (bx + 1) * 2 ^ bits) :
    ((y / 2 ^ bits) * subSize w bits + bx) * 4 + 1 = 4 * blockIdx w bits (y * w + x) + 1 := by
  unfold blockIdx
  rw [(rowcol_div_mod w y x hxw).1, (rowcol_div_mod w y x hxw).2, Nat.div_eq_of_lt_le h1 h2, Nat.mul_comm 4]
  rfl

theorem subSize_spec (w bits : Nat) : (∀ bx, bx < subSize w bits → bx * 2 ^ bits < w) ∧ w ≤ subSize w bits * 2 ^ bits := by
  have hB : 0 < 2 ^ bits := Nat.two_pow_pos bits
  unfold subSize
  constructor
  · intro bx hbx
    have : bx + 1 ≤ (w + 2 ^ bits - 1) / 2 ^ bits := hbx
    rw [Nat.le_div_iff_mul_le hB, Nat.succ_mul] at this
    omega
  · have := Nat.div_add_mod (w + 2 ^ bits - 1) (2 ^ bits)
    have := Nat.mod_lt (w + 2 ^ bits - 1) hB
    rw [Nat.mul_comm]
    omega

section phases
variable (a d : Array Nat) (w h bits : Nat) (O : Nat → Nat)
variable (hw : 0 < w) (hh : 0 < h) (hs : a.size = 4 * (w * h)) (hb : Bytes a)
variable (hsol : Sol a d w bits (w * h) O)
include hw hh hs hb hsol

/-- pixel 0: 255 is added to alpha, nothing to the colours -/
theorem phase0 : Inv a (w * h) O (fun q => q < 1) (a.setIfInBounds 3 ((a.getD 3 0 + 255) % 256)) := by
  have hN : 0 < w * h := Nat.mul_pos hw hh
  have hO := hsol 0 hN
  have e := specPredO_at O w bits d 0 0 hw
  rw [Nat.zero_mul, if_pos ⟨rfl, rfl⟩] at e
  rw [e] at hO
  refine ⟨Array.size_setIfInBounds, fun q hq hd => ?_, fun q hq hd => px_congr q fun c hc => by rw [ArrayWrites.getD_set, if_neg (by omega)]⟩
  obtain rfl : q = 0 := Nat.lt_one_iff.mp hd
  have hX : ∀ c, c < 4 → (bytesOf 0xff000000).getD c 0 = if c = 3 then 255 else 0 := by decide
  rw [hO]
  refine (px_eq_chans fun c hc => ?_).trans (chans_eq_bytesOf _ _ fun c hc => (getD_addPx _ _ c hc).symm)
  rw [← px_eq_bytesOf a hb, getD_px _ _ c hc, hX c hc, ArrayWrites.getD_set]
  by_cases h3 : c = 3
  · subst h3
    rw [if_pos ⟨rfl, by omega⟩, if_pos rfl]
  · rw [if_neg (by omega), if_neg h3, Nat.add_zero, Nat.mod_eq_of_lt (hb _)]

/-- the rest of the first row: predictor 1 (left) -/
theorem phase1 (arr : Array Nat) (hinv : Inv a (w * h) O (fun q => q < 1) arr) :
    Inv a (w * h) O (fun q => q < w) (span 1 w 0 arr 1 w) := by
  unfold span
  refine fold_inv (fun x q => q < x) (fun a x => stepPx 1 w a (0 * w + x)) w (w - 1) 1 arr (Nat.add_sub_cancel' hw) ?_ hinv
  intro x arr' hx1 hxw hi
  have hxN := rowcol_lt w h 0 x hh hxw
  have hO := hsol _ hxN
  rw [specPredO_at O w bits d 0 x hxw, if_neg (fun e => Nat.ne_of_gt hx1 e.1), if_pos rfl] at hO
  rw [Nat.zero_mul, Nat.zero_add] at hO hxN ⊢
  rw [stepPx_eq, hi.2.1 _ (Nat.lt_of_le_of_lt (Nat.sub_le _ _) hxN) (Nat.sub_lt hx1 Nat.one_pos)]
  exact Inv_congr (step_inv a _ O _ arr' hs hb hi _ hxN (Nat.lt_irrefl x) _ hO) (fun q _ => Nat.lt_succ_iff_lt_or_eq.symm)

/-- the first column: predictor 2 (top) -/
theorem phase2 (arr : Array Nat) (hinv : Inv a (w * h) O (fun q => q < w) arr) :
    Inv a (w * h) O (D2 w h) ((List.range' 1 (h - 1)).foldl (fun a y => stepPx 2 w a (y * w)) arr) := by
  have start : Inv a (w * h) O (D2 w 1) arr := Inv_congr hinv (fun q _ => by
    show q < w ↔ (q / w = 0 ∨ (q % w = 0 ∧ q / w < 1))
    rw [Nat.lt_one_iff, Nat.div_eq_zero_iff_lt hw]; exact ⟨Or.inl, fun e => e.elim id And.right⟩)
  refine fold_inv (D2 w) (fun a y => stepPx 2 w a (y * w)) h (h - 1) 1 arr (Nat.add_sub_cancel' hh) ?_ start
  intro y arr' hy1 hyh hi
  have hpN := rowcol_lt w h y 0 hyh hw
  have hyw : w ≤ y * w := Nat.le_mul_of_pos_left w hy1
  have hO := hsol _ hpN
  rw [specPredO_at O w bits d y 0 hw, if_neg (fun e => Nat.ne_of_gt hy1 e.2), if_neg (Nat.ne_of_gt hy1), if_pos rfl] at hO
  have hT : D2 w y (y * w - w) := by
    rw [← Nat.sub_one_mul]
    exact Or.inr ⟨Nat.mul_mod_left _ _, by rw [Nat.mul_div_cancel _ hw]; exact Nat.sub_lt hy1 Nat.one_pos⟩
  have hnot : ¬ D2 w y (y * w) := by
    unfold D2; rw [Nat.mul_div_cancel _ hw]
    exact fun e => e.elim (Nat.ne_of_gt hy1) fun e => Nat.lt_irrefl y e.2
  rw [Nat.add_zero] at hO hpN
  rw [stepPx_eq, hi.2.1 _ (Nat.lt_of_le_of_lt (Nat.sub_le _ _) hpN) hT]
  exact Inv_congr (step_inv a _ O _ arr' hs hb hi _ hpN hnot _ hO) (fun q _ => by
    unfold D2
    rw [← Nat.add_zero (y * w), ← eq_rowcol_iff w q y 0 hw, Nat.lt_succ_iff_lt_or_eq, and_or_left, or_assoc,
      and_comm (b := q % w = 0)])

/-- one interior pixel: the block's predictor applied to the finished neighbours -/
theorem interior (hmode : ∀ k, d.getD (4 * k + 1) 0 < 14) (arr' : Array Nat) (y x : Nat) (hy1 : 1 ≤ y) (hyh : y < h) (hx1 : 1 ≤ x) (hxw : x < w)
    (hi : Inv a (w * h) O (D3 w y x) arr') :
    Inv a (w * h) O (D3 w y (x + 1)) (stepPx (d.getD (4 * blockIdx w bits (y * w + x) + 1) 0) w arr' (y * w + x)) := by
  have hp := rowcol_lt w h y x hyh hxw
  have hyw : w ≤ y * w := Nat.le_mul_of_pos_left w hy1
  have hO := hsol _ hp
  rw [specPredO_at O w bits d y x hxw, if_neg (fun e => Nat.ne_of_gt hx1 e.1), if_neg (Nat.ne_of_gt hy1), if_neg (Nat.ne_of_gt hx1)] at hO
  -- the four neighbours come earlier in raster order
  have done : ∀ q, q < y * w + x → px arr' q = bytesOf (O q) := fun q hq =>
    hi.2.1 q (Nat.lt_trans hq hp) (D3_of_lt w y x q (Nat.le_of_lt hxw) hq)
  have hp0 : 0 < y * w + x := Nat.add_pos_right _ hx1
  rw [stepPx_eq, done _ (Nat.sub_lt hp0 Nat.one_pos), done _ (Nat.sub_lt hp0 hw), done _ (by omega), done _ (Nat.lt_of_le_of_lt (Nat.sub_le _ _) (Nat.sub_lt hp0 hw)), predPx_bytesOf _ _ _ _ _ (hmode _)]
  exact Inv_congr (step_inv a _ O _ arr' hs hb hi _ hp (by rw [D3_at w y x y x hxw]; omega) _ hO)
    (fun q _ => D3_succ w y x q hxw)

/-- a stretch of row `y` whose pixels all lie in blocks with predictor `m` -/
theorem span_inv (hmode : ∀ k, d.getD (4 * k + 1) 0 < 14) (arr : Array Nat) (m y x0 x1 : Nat) (hy1 : 1 ≤ y) (hyh : y < h)
    (h0 : 1 ≤ x0) (h01 : x0 ≤ x1) (h1 : x1 ≤ w)
    (hm : ∀ x, x0 ≤ x → x < x1 → m = d.getD (4 * blockIdx w bits (y * w + x) + 1) 0)
    (hi : Inv a (w * h) O (D3 w y x0) arr) : Inv a (w * h) O (D3 w y x1) (span m w y arr x0 x1) := by
  unfold span
  refine fold_inv (D3 w y) (fun a x => stepPx m w a (y * w + x)) x1 (x1 - x0) x0 arr (Nat.add_sub_cancel' h01) ?_ hi
  intro x arr' hx0 hx1 hi'
  show Inv a (w * h) O (D3 w y (x + 1)) (stepPx m w arr' (y * w + x))
  rw [hm x hx0 hx1]
  exact interior a d w h bits O hw hh hs hb hsol hmode arr' y x hy1 hyh (Nat.le_trans h0 hx0) (Nat.lt_of_lt_of_le hx1 h1) hi'

theorem row_inv (hmode : ∀ k, d.getD (4 * k + 1) 0 < 14) (arr : Array Nat) (y : Nat) (hy1 : 1 ≤ y) (hyh : y < h)
    (hi : Inv a (w * h) O (D3 w y 1) arr) : Inv a (w * h) O (D3 w y w) (rowBlocks w bits d arr y) := by
  obtain ⟨hS1, hS2⟩ := subSize_spec w bits
  unfold rowBlocks
  rw [List.range_eq_range']
  -- before block `bx` the row is finished up to column `bx·2^bits` (clipped to `1..w`)
  have := fold_inv (a := a) (N := w * h) (O := O) (fun bx => D3 w y (max (min (bx * 2 ^ bits) w) 1))
    (fun a bx => span (d.getD (((y / 2 ^ bits) * subSize w bits + bx) * 4 + 1) 0) w y a (max (bx * 2 ^ bits) 1) (min ((bx + 1) * 2 ^ bits) w))
    (subSize w bits) (subSize w bits) 0 arr (Nat.zero_add _) ?_ (by
      show Inv a (w * h) O (D3 w y (max (min (0 * 2 ^ bits) w) 1)) arr
      rw [Nat.zero_mul, Nat.zero_min]; exact hi)
  · rw [Nat.min_eq_right hS2, Nat.max_eq_left hw] at this
    exact this
  intro bx arr' _ hbx hi'
  have hlt := hS1 bx hbx
  have hB : 0 < 2 ^ bits := Nat.two_pow_pos bits
  have hx1 : 1 ≤ min ((bx + 1) * 2 ^ bits) w := Nat.le_min.2 ⟨Nat.mul_pos (Nat.succ_pos bx) hB, hw⟩
  show Inv a (w * h) O (D3 w y (max (min ((bx + 1) * 2 ^ bits) w) 1)) _
  rw [Nat.max_eq_left hx1]
  rw [Nat.min_eq_left (Nat.le_of_lt hlt)] at hi'
  exact span_inv a d w h bits O hw hh hs hb hsol hmode arr' _ y _ _ hy1 hyh (Nat.le_max_right _ _)
    (Nat.max_le.2 ⟨Nat.le_min.2 ⟨Nat.mul_le_mul_right _ (Nat.le_succ bx), Nat.le_of_lt hlt⟩, hx1⟩) (Nat.min_le_right _ _)
    (fun x hx0 hx1 => congrArg (d.getD · 0) (blockIdx_at w bits y x bx (Nat.lt_of_lt_of_le hx1 (Nat.min_le_right _ _))
      (Nat.le_trans (Nat.le_max_left _ _) hx0) (Nat.lt_of_lt_of_le hx1 (Nat.min_le_left _ _)))) hi'

theorem applyPredictor_final (hmode : ∀ k, d.getD (4 * k + 1) 0 < 14) :
    Inv a (w * h) O (fun _ => True) (applyPredictor w h bits d a) := by
  have p2 := phase2 a d w h bits O hw hh hs hb hsol _ (phase1 a d w h bits O hw hh hs hb hsol _ (phase0 a d w h bits O hw hh hs hb hsol))
  have p2' : Inv a (w * h) O (D3 w 1 1) _ := Inv_congr p2 (fun q hq => by
    have := div_lt_of_lt_N w h q hw hq
    unfold D2 D3
    generalize q / w = qd at *
    omega)
  have p3 := fold_inv (a := a) (N := w * h) (O := O) (fun y => D3 w y 1) (rowBlocks w bits d) h (h - 1) 1 _ (Nat.add_sub_cancel' hh) ?_ p2'
  · exact Inv_congr p3 (fun q hq => iff_of_true (Or.inl (div_lt_of_lt_N w h q hw hq)) trivial)
  intro y arr' hy1 hyh hi'
  exact Inv_congr (row_inv a d w h bits O hw hh hs hb hsol hmode arr' y hy1 hyh hi') (fun q _ => by
    have := Nat.mod_lt q hw
    unfold D3
    omega)

theorem applyPredictor_solves (hmode : ∀ k, d.getD (4 * k + 1) 0 < 14) :
    pixels (applyPredictor w h bits d a) = (List.range (w * h)).map O := by
  obtain ⟨hsz, hdone, _⟩ := applyPredictor_final a d w h bits O hw hh hs hb hsol hmode
  unfold pixels
  rw [hsz, hs, Nat.mul_div_cancel_left _ (by decide)]
  apply List.map_congr_left
  intro q hq
  have hq : q < w * h := List.mem_range.mp hq
  rw [pixAt_eq_packL, hdone q hq trivial, hsol q hq]
  exact packL_bytesOf_addPx _ _

end phases

section spec
variable (bits : Nat) (data : Array Nat) (w : Nat) (l : List Nat)

/-- the reconstructed pixels after `n` steps, newest first -/
def recon : Nat → List Nat
  | 0 => []
  | n + 1 => VP8L.addPx (l.getD n 0) (VP8LP.predAt bits data w n (recon n)) :: recon n

/-- pixel `n` of the specification's output; as a function of `n` it solves the recurrence (`osol_sol`) -/
def Osol (n : Nat) : Nat := VP8L.addPx (l.getD n 0) (VP8LP.predAt bits data w n (recon bits data w l n))

theorem recon_succ (n : Nat) : recon bits data w l (n + 1) = Osol bits data w l n :: recon bits data w l n := rfl

theorem invPredictor_recon (l' : List Nat) : ∀ i, (∀ k, k < l'.length → l'.getD k 0 = l.getD (i + k) 0) →
    VP8LP.invPredictor bits data w l' i (recon bits data w l i) = (recon bits data w l (i + l'.length)).reverse := by
  induction l' with
  | nil => intro i _; rfl
  | cons p rest ih =>
    intro i h
    obtain rfl : p = l.getD i 0 := h 0 (Nat.zero_lt_succ _)
    rw [List.length_cons, Nat.add_comm rest.length 1, ← Nat.add_assoc]
    exact ih (i + 1) fun k hk => by rw [Nat.add_right_comm]; exact h (k + 1) (Nat.succ_lt_succ hk)

theorem recon_reverse : ∀ n, (recon bits data w l n).reverse = (List.range n).map (Osol bits data w l) := by
  intro n
  induction n with
  | zero => rfl
  | succ n ih => rw [recon_succ, List.reverse_cons, ih, List.range_succ, List.map_append]; rfl

theorem recon_getD : ∀ n j, j < n → (recon bits data w l n).getD j 0 = Osol bits data w l (n - (j + 1)) := by
  intro n
  induction n with
  | zero => intro j h; exact absurd h (Nat.not_lt_zero j)
  | succ n ih =>
    intro j h
    rw [recon_succ]
    cases j with
    | zero => rfl
    | succ j => rw [List.getD_cons_succ, ih j (Nat.lt_of_succ_lt_succ h), Nat.add_sub_add_right]

theorem invPredictor_eq : VP8LP.invPredictor bits data w l 0 [] = (List.range l.length).map (Osol bits data w l) := by
  rw [← recon_reverse, ← Nat.zero_add l.length]; exact invPredictor_recon bits data w l l 0 fun k _ => by rw [Nat.zero_add]

end spec

theorem nbrs_of_rev (O : Nat → Nat) (rev : List Nat) (w i : Nat) (hi : w < i) (hw : 2 ≤ w)
    (hrev : ∀ j, j < i → rev.getD j 0 = O (i - (j + 1))) :
    rev.getD 0 0 = O (i - 1) ∧ rev.getD (w - 1) 0 = O (i - w) ∧ rev.getD (w - 2) 0 = O (i - w + 1) ∧ rev.getD w 0 = O (i - w - 1) :=
  ⟨hrev 0 (Nat.lt_of_le_of_lt (Nat.zero_le w) hi),
   by rw [hrev (w - 1) (Nat.lt_of_le_of_lt (Nat.sub_le _ _) hi), Nat.sub_add_cancel (Nat.le_of_succ_le hw)],
   by rw [hrev (w - 2) (Nat.lt_of_le_of_lt (Nat.sub_le _ _) hi), show i - (w - 2 + 1) = i - w + 1 by omega],
   hrev w hi⟩

theorem predAt_eq (O : Nat → Nat) (w bits : Nat) (d : Array Nat) (hd : Bytes d) (hd4 : d.size % 4 = 0) (hw : 0 < w) (i : Nat)
    (rev : List Nat) (hrev : ∀ j, j < i → rev.getD j 0 = O (i - (j + 1))) :
    VP8LP.predAt bits (pixels d).toArray w i rev = specPredO O w bits d i := by
  have hmode : VP8L.ch ((pixels d).toArray.getD (i / w / 2 ^ bits * VP8L.subSize w bits + i % w / 2 ^ bits) 0) 1 =
      d.getD (4 * blockIdx w bits i + 1) 0 := by
    rw [pixels_toArray_getD d hd4]; exact (ch_pixAt d hd (blockIdx w bits i)).2.1
  unfold VP8LP.predAt specPredO
  simp only []
  by_cases c1 : i % w = 0 ∧ i / w = 0
  · rw [if_pos c1, if_pos c1]
  rw [if_neg c1, if_neg c1]
  by_cases c2 : i / w = 0
  · have : 0 < i := Nat.pos_of_ne_zero fun h0 => c1 ⟨by rw [h0, Nat.zero_mod], c2⟩
    rw [if_pos c2, if_pos c2]; exact hrev 0 this
  rw [if_neg c2, if_neg c2]
  have hiw : w ≤ i := Nat.le_of_not_lt fun hlt => c2 (Nat.div_eq_of_lt hlt)
  by_cases c3 : i % w = 0
  · rw [if_pos c3, if_pos c3, hrev (w - 1) (Nat.lt_of_lt_of_le (Nat.sub_lt hw Nat.one_pos) hiw), Nat.sub_add_cancel hw]
  rw [if_neg c3, if_neg c3]
  obtain ⟨n1, n2, n3, n4⟩ := nbrs_of_rev O rev w i
    (Nat.lt_of_le_of_ne hiw fun e => c3 (by rw [← e, Nat.mod_self])) (Nat.lt_of_le_of_ne hw fun e => c3 (by rw [← e, Nat.mod_one])) hrev
  rw [n1, n2, n3, n4, hmode]

theorem osol_sol (a d : Array Nat) (w h bits : Nat) (hw : 0 < w) (hs : a.size = 4 * (w * h)) (hd : Bytes d) (hd4 : d.size % 4 = 0) :
    Sol a d w bits (w * h) (Osol bits (pixels d).toArray w (pixels a)) := by
  intro i hi
  show VP8L.addPx ((pixels a).getD i 0) (VP8LP.predAt bits (pixels d).toArray w i (recon bits (pixels d).toArray w (pixels a) i)) = _
  rw [pixels_getD a i (by omega), predAt_eq _ w bits d hd hd4 hw i _ (recon_getD bits (pixels d).toArray w (pixels a) i)]

/-- **`apply_predictor_transform` is the specification's inverse predictor transform**: for every
    image size, block size, predictor sub-image (modes 0..13) and residual buffer, the RGBA buffer
    after the driver - which works in place and in its own order: pixel 0, first row, first column,
    then row by row and block by block - read as ARGB pixels is the specification's result. -/
theorem predictor_is_spec (a d : Array Nat) (w h bits : Nat) (hw : 0 < w) (hh : 0 < h) (hs : a.size = 4 * (w * h))
    (hb : Bytes a) (hd : Bytes d) (hd4 : d.size % 4 = 0) (hmode : ∀ k, d.getD (4 * k + 1) 0 < 14) :
    pixels (applyPredictor w h bits d a) = VP8LP.invPredictor bits (pixels d).toArray w (pixels a) 0 [] := by
  rw [invPredictor_eq, pixels_length, hs, Nat.mul_div_cancel_left _ (by decide)]
  exact applyPredictor_solves a d w h bits _ hw hh hs hb (osol_sol a d w h bits hw hs hd hd4) hmode

end LTrProof
