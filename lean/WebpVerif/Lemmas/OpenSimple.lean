import WebpVerif.Lemmas.Scan

/-!
Whole-file parse-after-print for the two simple layouts: `WebPDecoder::new` on a RIFF header
followed by one VP8L (or VP8) chunk reports exactly the size (and alpha bit) the image header
encodes, for every legal size, whatever the declared RIFF / chunk sizes and whatever follows.
-/
namespace ScanProof
open Container EncContainer

theorem digit (a q m : Nat) (h : a < m) : (a + q * m) % m = a ∧ (a + q * m) / m = q := by
  rw [Nat.add_mul_mod_self_right, Nat.mod_eq_of_lt h, Nat.add_mul_div_right _ _ (Nat.zero_lt_of_lt h),
    Nat.div_eq_of_lt h, Nat.zero_add]
  exact ⟨rfl, rfl⟩

/-- two base-`m` digits and a bit packed into one word, and read back -/
theorem unpack (m a b c : Nat) (ha : a < m) (hb : b < m) (hc : c < 2) :
    (a + b * m + c * (m * m)) % m = a ∧ (a + b * m + c * (m * m)) / m % m = b ∧
    (a + b * m + c * (m * m)) / (m * m) % 2 = c ∧ (a + b * m + c * (m * m)) / (m * m * 2) = 0 := by
  have hx : a + b * m + c * (m * m) = a + (b + c * m) * m := by rw [Nat.add_mul, Nat.mul_assoc, Nat.add_assoc]
  obtain ⟨h1, h2⟩ := digit a (b + c * m) m ha
  obtain ⟨h3, h4⟩ := digit b c m hb
  have h5 : (a + (b + c * m) * m) / (m * m) = c := by rw [← Nat.div_div_eq_div_mul, h2, h4]
  rw [← Nat.div_div_eq_div_mul _ (m * m), hx, h1, h2, h3, h5, Nat.mod_eq_of_lt hc, Nat.div_eq_of_lt hc]
  exact ⟨rfl, rfl, rfl, rfl⟩

def vp8lWord (w h : Nat) (alpha : Bool) : Nat := (w - 1) + (h - 1) * 2 ^ 14 + (if alpha then 1 else 0) * 2 ^ 28

/-- the VP8L header word decodes to the fields it encodes; `/ 2 ^ 29` is the version field -/
theorem vp8lWord_fields (w h : Nat) (alpha : Bool) (hw : 1 ≤ w ∧ w ≤ 16384) (hh : 1 ≤ h ∧ h ≤ 16384) :
    vp8lWord w h alpha % 2 ^ 14 + 1 = w ∧ vp8lWord w h alpha / 2 ^ 14 % 2 ^ 14 + 1 = h ∧
    (vp8lWord w h alpha / 2 ^ 28 % 2 == 1) = alpha ∧ vp8lWord w h alpha / 2 ^ 29 = 0 ∧ vp8lWord w h alpha < 2 ^ 32 := by
  obtain ⟨f1, f2, f3, f4⟩ := unpack (2 ^ 14) (w - 1) (h - 1) (if alpha then 1 else 0)
    (Nat.sub_one_lt_of_le hw.1 hw.2) (Nat.sub_one_lt_of_le hh.1 hh.2) (by cases alpha <;> decide)
  refine ⟨by rw [vp8lWord, f1, Nat.sub_add_cancel hw.1], by rw [vp8lWord, f2, Nat.sub_add_cancel hh.1], ?_, f4, ?_⟩
  · rw [vp8lWord, f3]; cases alpha <;> rfl
  · exact Nat.lt_trans (Nat.lt_of_div_eq_zero (by decide) f4) (by decide)

/-- a simple lossless file: RIFF header, `VP8L` chunk header, signature byte, header word, anything -/
def simpleLossless (riffSize plen w h : Nat) (alpha : Bool) (body : List Nat) : List Nat :=
  RIFF ++ (EncContainer.le32 riffSize ++ (WEBP ++ (VP8L ++ (EncContainer.le32 plen ++ ([0x2f] ++
    (EncContainer.le32 (vp8lWord w h alpha) ++ body))))))

/-- the lossless layout, for a file given as a variable: with `simpleLossless ..` itself in the
    goal the kernel unfolds the fourcc strings and fails with deep recursion -/
theorem open_lossless_of (F : List Nat) (riffSize plen w h : Nat) (alpha : Bool) (body : List Nat)
    (hF : F = RIFF ++ (le32 riffSize ++ (WEBP ++ (VP8L ++ (le32 plen ++ ([0x2f] ++ (le32 (vp8lWord w h alpha) ++ body)))))))
    (hrs : riffSize < 2 ^ 32) (hpl : plen < 2 ^ 32) (hw : 1 ≤ w ∧ w ≤ 16384) (hh : 1 ≤ h ∧ h ≤ 16384) :
    openFile F =
      .ok { emptyInfo with width := w, height := h, hasAlpha := alpha, chunks := [(VP8L, (20, 20 + plen))] } := by
  obtain ⟨g2, g3, g4, g1, hword⟩ := vp8lWord_fields w h alpha hw hh
  obtain ⟨e1, e2, e3, h20⟩ := riff_prefix hF hrs fourcc_len.2.2.2.1 hpl
  obtain ⟨e4, h21⟩ := at_readU8 h20
  obtain ⟨e5, _⟩ := at_readLE (n := 4) h21 rfl
  rw [le_le32 _ hword] at e5
  obtain ⟨_, n2, n3, _⟩ := fourcc_arm
  simp only [openFile, readData, vp8lInfo, e1, e2, e3, e4, e5, n2, n3, g1, g2, g3, g4, bne_self_eq_false,
    Bool.false_eq_true, if_false, if_true]

theorem open_simple_lossless (riffSize plen w h : Nat) (alpha : Bool) (body : List Nat)
    (hrs : riffSize < 2 ^ 32) (hpl : plen < 2 ^ 32) (hw : 1 ≤ w ∧ w ≤ 16384) (hh : 1 ≤ h ∧ h ≤ 16384) :
    openFile (simpleLossless riffSize plen w h alpha body) =
      .ok { emptyInfo with width := w, height := h, hasAlpha := alpha, chunks := [(VP8L, (20, 20 + plen))] } :=
  open_lossless_of _ riffSize plen w h alpha body rfl hrs hpl hw hh

def le16 (n : Nat) : List Nat := [n % 256, n / 256 % 256]

theorem le_le16 (n : Nat) (h : n < 2 ^ 16) : le (le16 n) = n := by
  show n % 256 + 256 * (n / 256 % 256 + 256 * 0) = n
  rw [Nat.mul_zero, Nat.add_zero, Nat.mod_eq_of_lt (a := n / 256) (Nat.div_lt_of_lt_mul h), Nat.mod_add_div]

theorem size16 (w sx : Nat) (hw : w < 2 ^ 14) (hsx : sx < 4) : w + sx * 2 ^ 14 < 2 ^ 16 := by omega

/-- the parity of a little-endian number is that of its first byte (the key-frame bit of the frame tag) -/
theorem le_parity (b : Nat) (bs : List Nat) : le (b :: bs) % 2 = b % 2 := by
  show (b + 256 * le bs) % 2 = b % 2
  rw [Nat.add_mod, Nat.mul_mod, show 256 % 2 = 0 from rfl, Nat.zero_mul, Nat.zero_mod, Nat.add_zero, Nat.mod_mod]

/-- a simple lossy file: RIFF header, `VP8 ` chunk header, 3-byte frame tag (key frame: first
    byte even), start code, the two 16-bit size fields (14-bit size + 2-bit scale), anything -/
def simpleLossy (riffSize plen t0 t1 t2 w sx h sy : Nat) (body : List Nat) : List Nat :=
  RIFF ++ (EncContainer.le32 riffSize ++ (WEBP ++ (VP8 ++ (EncContainer.le32 plen ++ ([t0, t1, t2] ++
    ([0x9d, 0x01, 0x2a] ++ (le16 (w + sx * 2 ^ 14) ++ (le16 (h + sy * 2 ^ 14) ++ body))))))))

theorem open_simple_lossy (riffSize plen t0 t1 t2 w sx h sy : Nat) (body : List Nat)
    (hrs : riffSize < 2 ^ 32) (hpl : plen < 2 ^ 32) (ht : t0 < 256 ∧ t1 < 256 ∧ t2 < 256) (hkey : t0 % 2 = 0)
    (hw : 1 ≤ w ∧ w < 2 ^ 14) (hh : 1 ≤ h ∧ h < 2 ^ 14) (hsx : sx < 4) (hsy : sy < 4) :
    openFile (simpleLossy riffSize plen t0 t1 t2 w sx h sy body) =
      .ok { emptyInfo with width := w, height := h, isLossy := true, chunks := [(VP8, (20, 20 + plen))] } := by
  obtain ⟨e1, e2, e3, h20⟩ := riff_prefix (rfl : simpleLossy riffSize plen t0 t1 t2 w sx h sy body = _) hrs fourcc_len.2.2.1 hpl
  obtain ⟨e4, h23⟩ := at_readLE (n := 3) h20 rfl
  obtain ⟨e5, h26⟩ := at_read (n := 3) h23 rfl
  obtain ⟨e6, h28⟩ := at_readLE (n := 2) h26 rfl
  obtain ⟨e7, _⟩ := at_readLE (n := 2) h28 rfl
  rw [le_le16 _ (size16 w sx hw.2 hsx)] at e6
  rw [le_le16 _ (size16 h sy hh.2 hsy)] at e7
  have hkeyframe : le [t0, t1, t2] % 2 = 0 := (le_parity t0 _).trans hkey
  have hnz : (decide (w = 0) || decide (h = 0)) = false := by
    rw [decide_eq_false (Nat.ne_of_gt hw.1), decide_eq_false (Nat.ne_of_gt hh.1)]; rfl
  simp only [openFile, readData, e1, e2, e3, e4, e5, e6, e7, fourcc_arm.1, hkeyframe, (digit w sx _ hw.2).1, (digit h sy _ hh.2).1, hnz, bne_self_eq_false,
    Bool.false_eq_true, if_false, if_true]

end ScanProof
