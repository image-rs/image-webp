import WebpVerif.Spec.CodeLengths
import WebpVerif.Model.Enc
import WebpVerif.Lemmas.HuffCodes
import WebpVerif.Lemmas.EncHuffDepth

/-!
What `write_huffman_tree` serialises is read back by the specification (`Prefix.readCodeL`) as
exactly the code lengths the pixels are coded with.  The code-length code is itself a code built
by `build_huffman_tree` (limit 7) over the 16 length values, seen by the decoder as 19 lengths with
the repeat symbols 16..18 unused - or, if all symbols have one length, a one-symbol code.
-/
namespace EncTree
open Prefix

theorem getElem!_toList (a : Array Nat) (i : Nat) (h : i < a.toList.length) : a.toList[i] = a[i]! :=
  (getElem!_pos a.toList i h).symm.trans Array.getElem!_toList

theorem getD_eq_getElem! (l : List Nat) (i : Nat) : l.getD i 0 = l[i]! := by
  rw [List.getD_eq_getElem?_getD, List.getElem!_eq_getElem?_getD]; rfl

theorem getElem!_mem (a : Array Nat) (i : Nat) (h : i < a.size) : a[i]! ∈ a.toList := by
  rw [getElem!_pos a i h]; exact Array.getElem_mem_toList h

/-- the bits of a field list in stream order -/
def fieldBits (ws : List (Nat × Nat)) : List Nat := ws.flatMap fun x => lsbBits x.1 x.2

theorem fieldBits_nil : fieldBits [] = [] := rfl

theorem fieldBits_cons (v n : Nat) (ws : List (Nat × Nat)) : fieldBits ((v, n) :: ws) = lsbBits v n ++ fieldBits ws :=
  List.flatMap_cons ..

theorem fieldBits_append (a b : List (Nat × Nat)) : fieldBits (a ++ b) = fieldBits a ++ fieldBits b :=
  List.flatMap_append ..

theorem fieldBits_width_zero {α : Type} (f : α → Nat × Nat) : ∀ l : List α, (∀ x ∈ l, (f x).2 = 0) → fieldBits (l.map f) = [] := by
  intro l
  induction l with
  | nil => intro _; rfl
  | cons x l ih =>
    intro h
    rw [List.map_cons, ← Prod.eta (f x), fieldBits_cons, h x List.mem_cons_self, ih fun y hy => h y (List.mem_cons_of_mem _ hy)]
    rfl

theorem bitsVal_lsbBits (n v : Nat) : bitsVal (lsbBits v n) = v % 2 ^ n := by
  rw [← Huff.lsbVal_eq, Huff.lsbVal_lsbBits]

theorem readBitsL_field (v n : Nat) (rest : List Nat) (h : v < 2 ^ n) :
    readBitsL n (lsbBits v n ++ rest) = some (v, rest) := by
  unfold readBitsL
  have hl : (lsbBits v n).length = n := Huff.lsbBits_length v n
  rw [if_neg (by rw [List.length_append, hl]; omega), List.take_left' hl, List.drop_left' hl, bitsVal_lsbBits,
    Nat.mod_eq_of_lt h]

/-- the code-length-code lengths, written in the order of `kCodeLengthCodeOrder` -/
theorem readClLens_fields : ∀ (order : List Nat) (g : Nat → Nat) (cl rest : List Nat), (∀ i, g i < 8) →
    readClLens order cl (fieldBits (order.map fun i => (g i, 3)) ++ rest) =
      some ((order.zip (order.map g)).foldl (fun c p => c.set p.1 p.2) cl, rest) := by
  intro order g
  induction order with
  | nil => intro cl rest _; rfl
  | cons pos order ih =>
    intro cl rest hg
    rw [List.map_cons, fieldBits_cons, List.append_assoc, readClLens, readBitsL_field _ 3 _ (hg pos)]
    exact ih _ rest hg

theorem filter_append_zeros (ls : List Nat) (k : Nat) :
    (ls ++ List.replicate k 0).filter (· ≠ 0) = ls.filter (· ≠ 0) := by
  rw [List.filter_append, List.filter_replicate]
  simp

theorem blCount_append_zeros (ls : List Nat) (k len : Nat) (h : len ≠ 0) :
    blCount (ls ++ List.replicate k 0) len = blCount ls len := by
  unfold blCount
  rw [List.filter_append, List.filter_replicate, if_neg (by simpa using Ne.symm h), List.append_nil]

theorem nextCode_append_zeros (ls : List Nat) (k : Nat) : ∀ len, nextCode (ls ++ List.replicate k 0) len = nextCode ls len := by
  intro len
  induction len with
  | zero => rfl
  | succ len ih =>
    unfold nextCode
    rw [ih]
    by_cases h : len = 0
    · rw [if_pos h, if_pos h]
    · rw [if_neg h, if_neg h, blCount_append_zeros ls k len h]

theorem canonical_append_zeros (ls : List Nat) (k s : Nat) :
    canonicalCode (ls ++ List.replicate k 0) s = if s < ls.length then canonicalCode ls s else none := by
  unfold canonicalCode
  by_cases hs : s < ls.length
  · rw [if_pos hs, List.getElem?_append_left hs, List.getElem?_eq_getElem hs]
    cases hl : ls[s] with
    | zero => rfl
    | succ m =>
      simp only
      rw [nextCode_append_zeros, List.take_append_of_le_length (by omega)]
  · rw [if_neg hs, List.getElem?_append_right (by omega), List.getElem?_replicate]
    by_cases hk : s - ls.length < k
    · rw [if_pos hk]; rfl
    · rw [if_neg hk]

theorem validLengths_append_zeros (ls : List Nat) (k : Nat) : validLengths (ls ++ List.replicate k 0) = validLengths ls := by
  unfold validLengths kraft
  rw [filter_append_zeros, List.all_append, List.all_replicate]
  simp

end EncTree

-- `oneHot` and its lemmas stand in `EncRT`, the namespace under which the decoder-side file CodeRead uses them
namespace EncRT
open Prefix

/-- a code with the single symbol `s` in an alphabet of `n` -/
def oneHot (n s : Nat) : List Nat := (List.replicate n 0).set s 1

theorem oneHot_filter : ∀ (n s : Nat), s < n → (oneHot n s).filter (· ≠ 0) = [1] ∧ (oneHot n s).findIdx (· ≠ 0) = s := by
  intro n
  induction n with
  | zero => intro s hs; omega
  | succ n ih =>
    intro s hs
    unfold oneHot
    rw [List.replicate_succ]
    cases s with
    | zero =>
      rw [List.set_cons_zero, List.filter_cons_of_pos (by decide), List.filter_replicate, List.findIdx_cons]
      exact ⟨rfl, rfl⟩
    | succ s =>
      obtain ⟨i1, i2⟩ := ih s (by omega)
      rw [List.set_cons_succ, List.filter_cons_of_neg (by decide), List.findIdx_cons]
      exact ⟨i1, by rw [show (List.replicate n 0).set s 1 = oneHot n s from rfl, i2]; rfl⟩

theorem decodeSymbol_oneHot (n s : Nat) (hs : s < n) (bits : List Nat) : decodeSymbol (oneHot n s) bits = some (s, bits) := by
  unfold decodeSymbol
  obtain ⟨h1, h2⟩ := oneHot_filter n s hs
  rw [h1, h2]
  rfl

theorem validLengths_oneHot (n s : Nat) (hs : s < n) : validLengths (oneHot n s) = true := by
  unfold validLengths
  rw [(oneHot_filter n s hs).1]
  have : (oneHot n s).all (· ≤ 15) = true := by
    rw [List.all_eq_true]
    intro x hx
    rcases List.mem_or_eq_of_mem_set hx with h | h
    · rw [(List.mem_replicate.mp h).2]; rfl
    · rw [h]; rfl
  rw [this]
  rfl

end EncRT

namespace EncTree
open Prefix EncHuff

/-- the decoding contract of one symbol `j` of a code: its code word fits its length and the
    specification's symbol decoder returns `j` for it -/
def SymOK (L C : Array Nat) (lens : List Nat) (j : Nat) : Prop :=
  C[j]! < 2 ^ L[j]! ∧ L[j]! ≤ 15 ∧ ∀ rest, decodeSymbol lens (lsbBits C[j]! L[j]! ++ rest) = some (j, rest)

theorem used_corr (a b : List Nat) (hl : a.length = b.length)
    (h : ∀ i (h1 : i < a.length) (h2 : i < b.length), a[i] ≠ 0 ↔ b[i] > 0) :
    (a.filter (· ≠ 0)).length = (b.filter (· > 0)).length := by
  have e : a.map (fun x => decide (x ≠ 0)) = b.map (fun x => decide (x > 0)) := by
    apply List.ext_getElem (by simpa using hl)
    intro i h1 h2
    rw [List.getElem_map, List.getElem_map]
    exact decide_eq_decide.mpr (h i (by simpa using h1) (by simpa using h2))
  rw [← List.countP_eq_length_filter, ← List.countP_eq_length_filter]
  have := congrArg (List.countP id) e
  rwa [List.countP_map, List.countP_map] at this

theorem reverseBits_lt (c n : Nat) : reverseBits c n < 2 ^ n := by
  rw [reverseBits_eq]; exact bitSum_lt n c

/-- **what `build_huffman_tree(freqs, limit)` returns for two or more used symbols**: a length vector
    the specification accepts, zero exactly at the unused symbols, and for every used symbol a
    code word that the specification's decoder reads back as that symbol -/
theorem built_spec (freqs : List Nat) (limit : Nat) (h1 : 1 ≤ limit) (h15 : limit ≤ 15)
    (h2 : 2 ≤ (freqs.filter (· > 0)).length) (hsum : freqs.sum < 2 ^ 32) (hspace : freqs.length ≤ 2 ^ limit) :
    ∃ lengths codes, build freqs limit = .built lengths codes ∧ lengths.size = freqs.length ∧
      (∀ l ∈ lengths.toList, l ≤ limit) ∧ validLengths lengths.toList = true ∧
      2 ≤ (lengths.toList.filter (· ≠ 0)).length ∧
      ∀ j, j < freqs.length → (freqs[j]! = 0 → lengths[j]! = 0) ∧
        (freqs[j]! > 0 → 1 ≤ lengths[j]! ∧ ∃ c, canonicalCode lengths.toList j = some c ∧ c < 2 ^ lengths[j]! ∧
          codes[j]! = reverseBits c lengths[j]!) := by
  obtain ⟨lengths, codes, hb, hsz, hrange, hkraft, hcanon⟩ := build_full_all freqs limit h1 h15 h2 hsum hspace
  have hall : ∀ l ∈ lengths.toList, l ≤ limit := by
    intro l hl
    obtain ⟨i, hi, rfl⟩ := List.mem_iff_getElem.mp hl
    rw [getElem!_toList _ _ hi]
    have := hrange i (by simpa [hsz] using hi)
    by_cases hz : freqs[i]! = 0
    · rw [this.1 hz]; omega
    · exact (this.2 (by omega)).2
  have hused : 2 ≤ (lengths.toList.filter (· ≠ 0)).length := by
    refine le_of_le_of_eq h2 (used_corr _ _ (by simp [hsz]) fun i h1' h2' => ?_).symm
    have := hrange i h2'
    rw [List.getElem!_eq_getElem?_getD, List.getElem?_eq_getElem h2', Option.getD_some] at this
    rw [getElem!_toList _ _ h1']
    omega
  have hk15 := kraft_complete_above lengths.toList limit 15 hall h15 hkraft
  refine ⟨lengths, codes, hb, hsz, hall, ?_, hused, fun j hj => ⟨(hrange j hj).1, fun hpos => ?_⟩⟩
  · unfold validLengths
    have a1 : lengths.toList.all (· ≤ 15) = true := by
      rw [List.all_eq_true]; intro l hl; exact decide_eq_true (Nat.le_trans (hall l hl) h15)
    rw [a1, decide_eq_true hused, hk15, beq_self_eq_true, Bool.and_true, Bool.or_true]
    rfl
  · have hr := (hrange j hj).2 hpos
    obtain ⟨c, hc, hfit⟩ := canonical_fits lengths limit hall (Nat.le_of_eq hkraft) j (by omega) (by omega)
    have := hcanon j hj (by omega)
    rw [hc] at this
    exact ⟨hr.1, c, hc, hfit, Option.some.inj this⟩

theorem symOK_of_canonical (L C : Array Nat) (lens : List Nat) (j c : Nat) (h2 : 2 ≤ (lens.filter (· ≠ 0)).length)
    (hl : lens.getD j 0 = L[j]!) (h15 : L[j]! ≤ 15) (hc : canonicalCode lens j = some c) (hfit : c < 2 ^ L[j]!)
    (hcode : C[j]! = reverseBits c L[j]!) : SymOK L C lens j := by
  refine ⟨by rw [hcode]; exact reverseBits_lt _ _, h15, fun rest => ?_⟩
  unfold decodeSymbol
  rw [if_neg (by omega), hcode, ← hl]
  exact decodeSym_reversed lens j c 15 hc (by rw [hl]; exact hfit) (by rw [hl]; exact h15) rest

/-- `code_length_frequencies` (encoder.rs:235-238): how many symbols have each code length -/
def clFreqOf (lengths : List Nat) : List Nat := (List.range 16).map fun l => (lengths.filter (· == l)).length

/-- the second `build_huffman_tree` call, limit 7, on that histogram: (`single_code_length_length`,
    `code_length_lengths`, `code_length_codes`) -/
def clOf (lengths : List Nat) : Bool × Array Nat × Array Nat :=
  match build (clFreqOf lengths) 7 with
  | .built l c => (false, l, c)
  | _ => (true, Array.replicate 16 0, Array.replicate 16 0)

/-- the value written in 3 bits for position `i` of `CODE_LENGTH_ORDER` (encoder.rs:255-263) -/
def gField (clFreq : List Nat) (single : Bool) (clLen : Array Nat) (i : Nat) : Nat :=
  if i > 15 ∨ clFreq.getD i 0 = 0 then 0 else if single then 1 else clLen[i]!

/-- the fields `write_huffman_tree` writes for a normal (non single-symbol) code of an alphabet of
    `n` symbols (`Enc.writeHuffmanTree`, the `.built` arm).  As in the model every `n ≠ 256` takes
    the arm of 280 (Rust: `280 => …, _ => unreachable!()`); `encode_frame` only has alphabets of 256
    and 280 symbols. -/
def treeFields (n : Nat) (lengths : List Nat) : List (Nat × Nat) :=
  [(0, 1), (15, 4)] ++ Enc.codeLengthOrder.map (fun i => (gField (clFreqOf lengths) (clOf lengths).1 (clOf lengths).2.1 i, 3)) ++
  (if n = 256 then [(1, 1), (3, 3), (254, 8)] else [(0, 1)]) ++
  (if (clOf lengths).1 then [] else lengths.map fun len => ((clOf lengths).2.2[len]!, (clOf lengths).2.1[len]!))

/-- the code-length code as the decoder will see it: 19 lengths, by symbol -/
def clVec (lengths : List Nat) : List Nat :=
  (List.range 19).map (gField (clFreqOf lengths) (clOf lengths).1 (clOf lengths).2.1)

theorem order_eq : Enc.codeLengthOrder = clOrder := by decide

theorem cl_vector (g : Nat → Nat) :
    (clOrder.zip (clOrder.map g)).foldl (fun c p => c.set p.1 p.2) (List.replicate 19 0) = (List.range 19).map g := by
  have h : clOrder = [17, 18, 0, 1, 2, 3, 4, 5, 16, 6, 7, 8, 9, 10, 11, 12, 13, 14, 15] := by decide
  rw [h]
  simp [List.range, List.range.loop, List.replicate, List.set]

/-- the symbol loop on literal code-length symbols, with tokens and fuel to spare -/
theorem readLens_literals (alphabet : Nat) (cl lengths : List Nat) (C L : Nat → Nat)
    (hdec : ∀ len ∈ lengths, ∀ rest, decodeSymbol cl (lsbBits (C len) (L len) ++ rest) = some (len, rest))
    (hlt : ∀ len ∈ lengths, len < 16) (hlen : lengths.length = alphabet) :
    ∀ (remaining lens : List Nat) (k prev m : Nat) (rest : List Nat), lens ++ remaining = lengths →
      readLens alphabet cl (remaining.length + k) prev (remaining.length + m + 1) lens
        (fieldBits (remaining.map fun len => (C len, L len)) ++ rest) = some (lengths, rest) := by
  intro remaining
  induction remaining with
  | nil =>
    intro lens k prev m rest h
    rw [List.append_nil] at h
    subst h
    cases k with
    | zero => simp [readLens, fieldBits, hlen]
    | succ t => simp [readLens, fieldBits, hlen]
  | cons len rem ih =>
    intro lens k prev m rest h
    have hmem : len ∈ lengths := by rw [← h]; simp
    have hll : lens.length < alphabet := by
      rw [← hlen, ← h, List.length_append, List.length_cons]; omega
    rw [List.length_cons, Nat.add_right_comm _ 1 k, Nat.add_right_comm _ 1 m, readLens, if_neg (by omega)]
    simp only
    rw [List.map_cons, fieldBits_cons, List.append_assoc, hdec len hmem]
    simp only
    rw [if_pos (hlt len hmem)]
    exact ih (lens ++ [len]) k _ m rest (by rw [List.append_assoc]; exact h)

theorem count_pos_of_mem (lengths : List Nat) (len : Nat) (h : len ∈ lengths) (h15 : len ≤ 15) :
    (clFreqOf lengths)[len]! > 0 := by
  unfold clFreqOf
  rw [List.getElem!_eq_getElem?_getD, List.getElem?_map, List.getElem?_range (by omega)]
  exact List.length_pos_of_mem (List.mem_filter.mpr ⟨h, by simp⟩)

theorem unique_pos : ∀ (l : List Nat) (j : Nat), j < l.length → l[j]! > 0 → (l.filter (· > 0)).length ≤ 1 →
    l.findIdx (· > 0) = j := by
  intro l
  induction l with
  | nil => intro j hj; simp at hj
  | cons a l ih =>
    intro j hj hpos hone
    rw [List.findIdx_cons]
    by_cases ha : a > 0
    · rw [List.filter_cons_of_pos (by simpa using ha)] at hone
      have hf : l.filter (· > 0) = [] := List.eq_nil_of_length_eq_zero (by simp only [List.length_cons] at hone; omega)
      cases j with
      | zero => simp [ha]
      | succ k =>
        have hk : k < l.length := by simpa using hj
        rw [List.getElem!_eq_getElem?_getD, List.getElem?_cons_succ, List.getElem?_eq_getElem hk] at hpos
        have : l[k] ∈ l.filter (· > 0) := List.mem_filter.mpr ⟨List.getElem_mem _, by simpa using hpos⟩
        rw [hf] at this
        cases this
    · rw [List.filter_cons_of_neg (by simpa using ha)] at hone
      cases j with
      | zero => exact absurd hpos ha
      | succ k =>
        rw [List.getElem!_eq_getElem?_getD, List.getElem?_cons_succ, ← List.getElem!_eq_getElem?_getD] at hpos
        simp only [ha, decide_false, cond_false]
        rw [ih k (by simpa using hj) hpos hone]

theorem sum_le_bound (B : Nat) : ∀ l : List Nat, (∀ x ∈ l, x ≤ B) → l.sum ≤ l.length * B := by
  intro l
  induction l with
  | nil => intro _; simp
  | cons a l ih =>
    intro h
    have := ih (fun x hx => h x (List.mem_cons_of_mem _ hx))
    have ha := h a List.mem_cons_self
    simp only [List.sum_cons, List.length_cons, Nat.succ_mul]
    omega

/-- what reader and writer need to know about the code-length code of `lengths` -/
structure ClOK (lengths : List Nat) : Prop where
  valid : validLengths (clVec lengths) = true
  lt8 : ∀ i, gField (clFreqOf lengths) (clOf lengths).1 (clOf lengths).2.1 i < 8
  sym : ∀ len ∈ lengths, SymOK (clOf lengths).2.1 (clOf lengths).2.2 (clVec lengths) len
  single : (clOf lengths).1 = true → ∀ len : Nat, (clOf lengths).2.1[len]! = 0

open EncRT in
theorem clOK_holds (lengths : List Nat) (hpos : 1 ≤ lengths.length) (hlen : lengths.length ≤ 5000) (h15 : ∀ l ∈ lengths, l ≤ 15) :
    ClOK lengths := by
  have hflen : (clFreqOf lengths).length = 16 := by simp [clFreqOf]
  have hcount : ∀ len ∈ lengths, (clFreqOf lengths)[len]! > 0 := fun len hl => count_pos_of_mem lengths len hl (h15 len hl)
  by_cases h1 : ((clFreqOf lengths).filter (· > 0)).length ≤ 1
  · -- all symbols have one length `v`: the code-length code is the single symbol `v`, zero bits each
    obtain ⟨v, hvmem⟩ := List.exists_mem_of_length_pos hpos
    have hv15 := h15 v hvmem
    have hv19 : v < 19 := Nat.lt_of_le_of_lt hv15 (by decide)
    have honly : ∀ i, i < 16 → (clFreqOf lengths)[i]! > 0 → i = v := fun i hi hp =>
      (unique_pos _ i (hflen ▸ hi) hp h1).symm.trans (unique_pos _ v (hflen ▸ Nat.lt_succ_of_le hv15) (hcount v hvmem) h1)
    have hcl : clOf lengths = (true, Array.replicate 16 0, Array.replicate 16 0) := by unfold clOf build; rw [if_pos h1]
    have hvec : clVec lengths = oneHot 19 v := by
      unfold clVec oneHot
      rw [hcl]
      apply List.ext_getElem (by simp)
      intro i h1' h2'
      rw [List.getElem_map, List.getElem_range, List.getElem_set, List.getElem_replicate]
      unfold gField
      rw [getD_eq_getElem!]
      by_cases hiv : v = i
      · rw [if_pos hiv, if_neg (by have := hcount v hvmem; rw [hiv] at this; omega)]; rfl
      · rw [if_neg hiv]
        by_cases hi : i > 15
        · rw [if_pos (Or.inl hi)]
        · by_cases hz : (clFreqOf lengths)[i]! = 0
          · rw [if_pos (Or.inr hz)]
          · exact absurd (honly i (Nat.lt_succ_of_le (Nat.le_of_not_lt hi)) (Nat.pos_of_ne_zero hz)).symm hiv
    refine ⟨by rw [hvec]; exact validLengths_oneHot 19 v hv19, fun i => ?_, fun len hl => ?_, fun _ len => ?_⟩
    · rw [hcl]
      unfold gField
      split
      · decide
      · rw [if_pos rfl]; decide
    · rw [hvec, hcl, honly len (Nat.lt_succ_of_le (h15 len hl)) (hcount len hl)]
      unfold SymOK
      rw [ArrayWrites.get_zeros]
      exact ⟨Nat.one_pos, Nat.zero_le _, decodeSymbol_oneHot 19 v hv19⟩
    · rw [hcl]; exact ArrayWrites.get_zeros 16 len
  · -- two or more code lengths: the code-length code is a code built with limit 7, and the three
    -- repeat symbols 16..18 stay unused
    have hsum : (clFreqOf lengths).sum < 2 ^ 32 := by
      have := sum_le_bound 5000 (clFreqOf lengths) (by
        intro x hx
        obtain ⟨l, _, rfl⟩ := List.mem_map.mp hx
        exact Nat.le_trans (List.length_filter_le _ _) hlen)
      rw [hflen] at this
      omega
    obtain ⟨clLen, clCode, hb, hsz, hall7, hv, hused, hsym⟩ :=
      built_spec (clFreqOf lengths) 7 (by decide) (by decide) (Nat.lt_of_not_le h1) hsum (by rw [hflen]; decide)
    rw [hflen] at hsz hsym
    have hlen16 : clLen.toList.length = 16 := hsz
    have hcl : clOf lengths = (false, clLen, clCode) := by unfold clOf; rw [hb]
    have hg : ∀ i, gField (clFreqOf lengths) false clLen i = if i < 16 then clLen[i]! else 0 := by
      intro i
      unfold gField
      by_cases hi : i < 16
      · rw [if_pos hi, getD_eq_getElem!]
        by_cases hz : (clFreqOf lengths)[i]! = 0
        · rw [if_pos (Or.inr hz), (hsym i hi).1 hz]
        · rw [if_neg (by omega)]; rfl
      · rw [if_pos (Or.inl (by omega)), if_neg hi]
    have hvec : clVec lengths = clLen.toList ++ List.replicate 3 0 := by
      unfold clVec
      rw [hcl]
      apply List.ext_getElem (by simp [hsz])
      intro i h1' h2'
      rw [List.getElem_map, List.getElem_range, hg]
      by_cases hi : i < 16
      · rw [if_pos hi, List.getElem_append_left (hlen16 ▸ hi), getElem!_toList]
      · rw [if_neg hi, List.getElem_append_right (hlen16 ▸ Nat.le_of_not_lt hi), List.getElem_replicate]
    refine ⟨by rw [hvec, validLengths_append_zeros]; exact hv, fun i => ?_, fun len hl => ?_, fun h => by rw [hcl] at h; cases h⟩
    · rw [hcl, hg]
      split
      · exact Nat.lt_of_le_of_lt (hall7 _ (getElem!_mem clLen i (by omega))) (by decide)
      · decide
    · have hl16 : len < 16 := Nat.lt_succ_of_le (h15 len hl)
      obtain ⟨_, c, hc, hfit, hcode⟩ := (hsym len hl16).2 (hcount len hl)
      rw [hvec, hcl]
      refine symOK_of_canonical clLen clCode _ len c (by rw [filter_append_zeros]; exact hused) ?_
        (Nat.le_trans (hall7 _ (getElem!_mem clLen len (hsz ▸ hl16))) (by decide)) ?_ hfit hcode
      · rw [List.getD_eq_getElem?_getD, List.getElem?_append_left (hlen16 ▸ hl16), ← List.getD_eq_getElem?_getD,
          toList_getD]
      · rw [canonical_append_zeros, if_pos (hlen16 ▸ hl16), hc]

/-- **What `write_huffman_tree` serialises parses back**: for every valid length vector of an
    alphabet of 1..5000 symbols (lengths up to 15), whatever follows in the stream -/
theorem parse_back (n : Nat) (lengths : List Nat) (hn : lengths.length = n) (hpos : 1 ≤ n) (hn1 : n ≤ 5000)
    (h15 : ∀ l ∈ lengths, l ≤ 15) (hv : validLengths lengths = true) (rest : List Nat) :
    readCodeL n (fieldBits (treeFields n lengths) ++ rest) = some (lengths, rest) := by
  obtain ⟨cvalid, clt8, csym, csingle⟩ := clOK_holds lengths (hn ▸ hpos) (hn ▸ hn1) h15
  -- written or not, the code-length symbols contribute the bits of their code words
  have hsyms : fieldBits (if (clOf lengths).1 then [] else lengths.map fun len => ((clOf lengths).2.2[len]!, (clOf lengths).2.1[len]!)) =
      fieldBits (lengths.map fun len => ((clOf lengths).2.2[len]!, (clOf lengths).2.1[len]!)) := by
    split
    · rename_i h1
      exact (fieldBits_width_zero (fun len => ((clOf lengths).2.2[len]!, (clOf lengths).2.1[len]!)) lengths fun len _ => csingle h1 len).symm
    · rfl
  have hloop := readLens_literals n (clVec lengths) lengths (fun len => (clOf lengths).2.2[len]!) (fun len => (clOf lengths).2.1[len]!)
    (fun len hl => (csym len hl).2.2) (fun len hl => by have := h15 len hl; omega) hn lengths [] 0 8 0 rest rfl
  rw [hn, Nat.add_zero] at hloop
  -- (the `8` is the specification's initial `prev`, which literal code-length symbols never consult)
  unfold treeFields
  rw [fieldBits_append, fieldBits_append, hsyms, order_eq]
  simp (disch := first | decide | exact clt8) only [readCodeL, fieldBits_append, fieldBits_cons, fieldBits_nil,
    List.append_assoc, List.nil_append, readBitsL_field, readClLens_fields, show clOrder.take (4 + 15) = clOrder by decide,
    cl_vector, show (List.range 19).map _ = clVec lengths from rfl, cvalid, ↓reduceIte, Nat.zero_ne_one, Bool.not_true,
    Bool.false_eq_true]
  by_cases h256 : n = 256
  · subst h256
    simp (disch := decide) only [fieldBits_cons, fieldBits_nil, List.append_assoc, List.nil_append, readBitsL_field, ↓reduceIte,
      Nat.reduceAdd, Nat.reduceMul, gt_iff_lt, Nat.lt_irrefl, hloop, hv]
  · simp (disch := decide) only [h256, fieldBits_cons, fieldBits_nil, List.append_assoc, List.nil_append, readBitsL_field,
      ↓reduceIte, Nat.zero_ne_one, hloop, hv]

end EncTree
