import WebpVerif.Model.BitReader
import Mathlib.Tactic.ByContra
import Mathlib.Tactic.Linarith

/-!
The reservoir of `lossless::BitReader` as a window of the bit stream `le64 data` (`Inv`), which both
refill paths and `consume` keep; the position and bit count after a refill do not depend on how
much `fill_buf` exposes, so two readers that agree on them return the same values (`Agree`).
-/
namespace BitReader

theorem window_shift (T m k : Nat) : (T % 2 ^ m) >>> k = (T >>> k) % 2 ^ (m - k) := by
  apply Nat.eq_of_testBit_eq
  intro i
  simp only [Nat.testBit_shiftRight, Nat.testBit_mod_two_pow, Nat.lt_sub_iff_add_lt']

/-- Of the stream `T` from bit `p - n` on, the low `m ≥ n` bits are held.  OR-ing the `j` bits
    from bit `p` on over them at bit `n` gives the low `max m (n + j)` bits: where the two overlap
    they are the same bits, so OR changes nothing there. -/
theorem merge (T p n m j : Nat) (hp : n ≤ p) (h : n ≤ m) :
    (T >>> (p - n)) % 2 ^ m ||| ((T >>> p) % 2 ^ j) <<< n = (T >>> (p - n)) % 2 ^ max m (n + j) := by
  have : T >>> p = (T >>> (p - n)) >>> n := by rw [← Nat.shiftRight_add, Nat.sub_add_cancel hp]
  rw [this]
  generalize T >>> (p - n) = W
  apply Nat.eq_of_testBit_eq
  intro i
  simp only [Nat.testBit_or, Nat.testBit_shiftLeft, Nat.testBit_mod_two_pow, Nat.testBit_shiftRight]
  by_cases hi : n ≤ i
  · rw [Nat.add_sub_cancel' hi]
    simp only [lt_max_iff, Nat.sub_lt_iff_lt_add' hi, hi, decide_true, Bool.true_and, Bool.decide_or,
      Bool.and_or_distrib_right]
  · have h1 : i < m := Nat.lt_of_lt_of_le (Nat.lt_of_not_le hi) h
    simp only [hi, h1, lt_max_iff, true_or, decide_true, decide_false, Bool.false_and, Bool.or_false]

theorem le64_cons (b : Nat) (bs : List Nat) : le64 (b :: bs) = b + 256 * le64 bs := rfl

theorem cons_mod {b : Nat} (h : b < 256) (x : Nat) : (b + 256 * x) % 2 ^ 8 = b :=
  (Nat.add_mul_mod_self_left b 256 x).trans (Nat.mod_eq_of_lt h)

theorem cons_div {b : Nat} (h : b < 256) (x : Nat) : (b + 256 * x) / 2 ^ 8 = x := by
  show (b + 256 * x) / 256 = x
  rw [Nat.add_mul_div_left _ _ (by decide), Nat.div_eq_of_lt h, Nat.zero_add]

theorem stream_drop (data : List Nat) (hb : ∀ b ∈ data, b < 256) (p : Nat) :
    le64 (data.drop p) = le64 data >>> (8 * p) := by
  induction p generalizing data with
  | zero => rfl
  | succ p ih =>
    cases data with
    | nil => exact (Nat.zero_shiftRight _).symm
    | cons b bs =>
      rw [List.drop_succ_cons, ih bs fun x hx => hb x (List.mem_cons_of_mem _ hx), le64_cons,
        Nat.mul_succ, Nat.add_comm (8 * p), Nat.shiftRight_add, Nat.shiftRight_eq_div_pow _ 8,
        cons_div (hb b List.mem_cons_self)]

theorem le64_take (l : List Nat) (hb : ∀ b ∈ l, b < 256) (k : Nat) :
    le64 (l.take k) = le64 l % 2 ^ (8 * k) := by
  induction k generalizing l with
  | zero => exact (Nat.mod_one _).symm
  | succ k ih =>
    cases l with
    | nil => exact (Nat.zero_mod _).symm
    | cons b bs =>
      have := hb b List.mem_cons_self
      rw [List.take_succ_cons, le64_cons, le64_cons, ih bs fun x hx => hb x (List.mem_cons_of_mem _ hx),
        Nat.mul_succ, Nat.pow_add, Nat.mul_comm (2 ^ (8 * k)), Nat.mod_mul, cons_mod this, cons_div this]

theorem stream_byte (data : List Nat) (hb : ∀ b ∈ data, b < 256) (p : Nat) :
    data.getD p 0 = (le64 data >>> (8 * p)) % 2 ^ 8 := by
  rw [← stream_drop data hb, List.getD_eq_getElem?_getD, ← List.head?_drop]
  cases h : data.drop p with
  | nil => rfl
  | cons b bs => exact (cons_mod (hb b (List.mem_of_mem_drop (h ▸ List.mem_cons_self))) _).symm

/-- the reservoir holds a valid window of the stream: its low `m ≥ nbits` bits are the stream bits
    starting at bit position `8·pos − nbits`, and nothing else is set.  Bits between `nbits` and
    `m` are "stale" look-ahead: real upcoming bits, which a later OR writes again unchanged. -/
def Inv (data : List Nat) (br : BR) : Prop :=
  br.nbits ≤ 8 * br.pos ∧ br.pos ≤ data.length ∧ br.nbits ≤ 63 ∧
  ∃ m, br.nbits ≤ m ∧ m ≤ 64 ∧ br.buffer = (le64 data >>> (8 * br.pos - br.nbits)) % 2 ^ m

theorem inv_init (data : List Nat) : Inv data init :=
  ⟨Nat.le_refl 0, Nat.zero_le _, by decide, 0, Nat.le_refl 0, by decide, (Nat.mod_one _).symm⟩

theorem fillSlow_inv (data : List Nat) (hb : ∀ b ∈ data, b < 256) (fuel : Nat) (br : BR) (h : Inv data br) :
    Inv data (fillSlow data fuel br) := by
  induction fuel generalizing br with
  | zero => exact h
  | succ fuel ih =>
    unfold fillSlow
    split
    next hc =>
      obtain ⟨h1, h2, h3, m, hm1, hm2, hbuf⟩ := h
      have hn : br.nbits + 8 ≤ 63 := Nat.add_le_add_right (Nat.le_of_lt_succ hc.2) 8
      refine ih _ ⟨Nat.add_le_add_right h1 8, hc.1, hn, max m (br.nbits + 8), Nat.le_max_right ..,
        Nat.max_le.2 ⟨hm2, Nat.le_succ_of_le hn⟩, ?_⟩
      show br.buffer ||| _ <<< br.nbits = (_ >>> (8 * (br.pos + 1) - (br.nbits + 8))) % _
      rw [hbuf, stream_byte data hb, merge _ _ _ _ _ h1 hm1, Nat.mul_succ, Nat.add_sub_add_right]
    next => exact h

/-- the byte-at-a-time loop, wanting `q` more bytes (`nbits + 8q` in `56..63`), takes `q` of them
    or what is left -/
theorem fillSlow_shape (data : List Nat) (fuel q : Nat) (br : BR) (hq : q ≤ fuel)
    (h1 : 56 ≤ br.nbits + 8 * q) (h2 : br.nbits + 8 * q ≤ 63) :
    (fillSlow data fuel br).pos = br.pos + min (data.length - br.pos) q ∧
    (fillSlow data fuel br).nbits = br.nbits + 8 * min (data.length - br.pos) q := by
  induction fuel generalizing br q with
  | zero =>
    rw [Nat.le_zero.mp hq, Nat.min_zero]
    exact ⟨rfl, rfl⟩
  | succ fuel ih =>
    unfold fillSlow
    cases q with
    | zero =>
      rw [if_neg fun hc => Nat.not_le.2 hc.2 h1, Nat.min_zero]
      exact ⟨rfl, rfl⟩
    | succ q =>
      rw [Nat.mul_succ, ← Nat.add_assoc, Nat.add_right_comm] at h1 h2
      split
      next hc =>
        -- a byte is taken: `min (l + 1) (q + 1) = min l q + 1`, regrouped to the state after it
        rw [← Nat.sub_add_cancel (Nat.sub_pos_of_lt hc.1), Nat.add_min_add_right, Nat.mul_succ, ← Nat.add_assoc,
          ← Nat.add_assoc, Nat.add_right_comm br.pos, Nat.add_right_comm br.nbits]
        exact ih q _ (Nat.le_of_succ_le_succ hq) h1 h2
      next hc =>
        -- `nbits < 56` since a byte is still wanted, so the loop stopped for lack of input
        have hn : br.nbits + 8 < 56 + 8 := Nat.lt_succ_of_le (Nat.le_trans (Nat.le_add_right ..) h2)
        rw [Nat.sub_eq_zero_of_le (Nat.le_of_not_lt fun hp => hc ⟨hp, Nat.lt_of_add_lt_add_right hn⟩), Nat.zero_min]
        exact ⟨rfl, rfl⟩

/-- both refill paths leave the same `nbits` -/
theorem or56 : ∀ n < 64, n ||| 56 = n + 8 * ((63 - n) / 8) := by decide +kernel

/-- a refill wants `(63 − nbits)/8 ≤ 7` bytes, which bring `nbits` into `56..63` -/
theorem fill_count {n : Nat} (hn : n ≤ 63) :
    (63 - n) / 8 ≤ 7 ∧ 56 ≤ n + 8 * ((63 - n) / 8) ∧ n + 8 * ((63 - n) / 8) ≤ 63 := by
  omega

/-- the position and bit count after `fill` do not depend on the schedule -/
theorem fill_shape (data : List Nat) (expose : Nat → Nat) (br : BR) (hn : br.nbits ≤ 63) :
    (fill data expose br).pos = br.pos + min (data.length - br.pos) ((63 - br.nbits) / 8) ∧
    (fill data expose br).nbits = br.nbits + 8 * min (data.length - br.pos) ((63 - br.nbits) / 8) := by
  have hq := fill_count hn
  simp only [fill]
  rw [or56 _ (Nat.lt_succ_of_le hn)]
  generalize (63 - br.nbits) / 8 = q at hq ⊢
  have hq8 : q ≤ 8 := Nat.le_succ_of_le hq.1
  split
  next ha =>
    rw [Nat.min_eq_right (Nat.le_trans hq8 (Nat.le_min.1 ha).2)]
    exact ⟨rfl, rfl⟩
  next => exact fillSlow_shape data 8 q br hq8 hq.2.1 hq.2.2

theorem fill_inv (data : List Nat) (hb : ∀ b ∈ data, b < 256) (expose : Nat → Nat) (br : BR) (h : Inv data br) :
    Inv data (fill data expose br) := by
  simp only [fill]
  split
  next ha =>
    have hq := fill_count h.2.2.1
    rw [or56 _ (Nat.lt_succ_of_le h.2.2.1)]
    generalize (63 - br.nbits) / 8 = q at hq ⊢
    obtain ⟨h1, h2, h3, m, hm1, hm2, hbuf⟩ := h
    have hp : q ≤ data.length - br.pos := Nat.le_trans (Nat.le_succ_of_le hq.1) (Nat.le_min.1 ha).2
    refine ⟨Nat.mul_add .. ▸ Nat.add_le_add_right h1 _, Nat.add_le_of_le_sub' h2 hp, hq.2.2, 64,
      Nat.le_succ_of_le hq.2.2, Nat.le_refl _, ?_⟩
    show (br.buffer ||| _ <<< br.nbits) % 2 ^ 64 = (_ >>> (8 * (br.pos + q) - (br.nbits + 8 * q))) % _
    rw [hbuf, le64_take _ (fun b h => hb b (List.mem_of_mem_drop h)), stream_drop data hb, merge _ _ _ _ _ h1 hm1,
      Nat.mod_mod_of_dvd _ (Nat.pow_dvd_pow 2 (Nat.le_trans (Nat.le_add_left ..) (Nat.le_max_right ..))),
      Nat.mul_add, Nat.add_sub_add_right]
  next => exact fillSlow_inv data hb 8 br h

theorem consume_of_lt {br : BR} {n : Nat} (h : br.nbits < n) : consume br n = none := if_pos h

theorem consume_of_le {br : BR} {n : Nat} (h : n ≤ br.nbits) :
    consume br n = some { br with buffer := br.buffer >>> n, nbits := br.nbits - n } :=
  if_neg (Nat.not_lt.2 h)

theorem run_read (data : List Nat) (e : Nat → Nat) (br : BR) (n : Nat) (ops : List Op) :
    run data e br (.read n :: ops) =
      run data e (if br.nbits < n then fill data e br else br) (.peekConsume n :: ops) := by
  simp only [run, readBits]
  cases consume _ n <;> rfl

theorem Inv.consume {data : List Nat} {br : BR} (h : Inv data br) {n : Nat} (hn : n ≤ br.nbits) :
    Inv data { br with buffer := br.buffer >>> n, nbits := br.nbits - n } := by
  obtain ⟨h1, h2, h3, m, hm1, hm2, hbuf⟩ := h
  refine ⟨Nat.le_trans (Nat.sub_le ..) h1, h2, Nat.le_trans (Nat.sub_le ..) h3, m - n,
    Nat.sub_le_sub_right hm1 n, Nat.le_trans (Nat.sub_le ..) hm2, ?_⟩
  show br.buffer >>> n = (_ >>> (8 * br.pos - (br.nbits - n))) % _
  rw [hbuf, window_shift, ← Nat.shiftRight_add, tsub_tsub_assoc h1 hn]

/-- what `peek` returns is the stream's bits at the current bit position: a function of
    `(pos, nbits)` alone -/
theorem peek_value (data : List Nat) (br : BR) (n : Nat) (h : Inv data br) (hn : n ≤ br.nbits) :
    peek br n = (le64 data >>> (8 * br.pos - br.nbits)) % 2 ^ n := by
  obtain ⟨_, _, _, m, hm1, _, hbuf⟩ := h
  rw [peek, hbuf, Nat.mod_mod_of_dvd _ (Nat.pow_dvd_pow 2 (Nat.le_trans hn hm1))]

def Same (a b : BR) : Prop := a.pos = b.pos ∧ a.nbits = b.nbits

theorem fill_same (data : List Nat) (e1 e2 : Nat → Nat) (a b : BR) (hab : Same a b) (ha : a.nbits ≤ 63) :
    Same (fill data e1 a) (fill data e2 b) := by
  obtain ⟨a1, a2⟩ := fill_shape data e1 a ha
  obtain ⟨b1, b2⟩ := fill_shape data e2 b (hab.2 ▸ ha)
  rw [Same, a1, a2, b1, b2, hab.1, hab.2]
  exact ⟨rfl, rfl⟩

/-- two readers at the same place of the same stream, each holding a valid window: from here on
    they return the same values, whatever their buffers hold above `nbits` -/
structure Agree (data : List Nat) (a b : BR) : Prop where
  same : Same a b
  left : Inv data a
  right : Inv data b

theorem Agree.fill {data : List Nat} (hb : ∀ b ∈ data, b < 256) {a b : BR} (h : Agree data a b)
    (e1 e2 : Nat → Nat) : Agree data (fill data e1 a) (fill data e2 b) :=
  ⟨fill_same data e1 e2 a b h.same h.left.2.2.1, fill_inv data hb e1 a h.left, fill_inv data hb e2 b h.right⟩

theorem Agree.consume {data : List Nat} {a b : BR} (h : Agree data a b) {n : Nat} (hn : n ≤ a.nbits) :
    Agree data { a with buffer := a.buffer >>> n, nbits := a.nbits - n }
      { b with buffer := b.buffer >>> n, nbits := b.nbits - n } :=
  ⟨⟨h.same.1, congrArg (· - n) h.same.2⟩, h.left.consume hn, h.right.consume (h.same.2 ▸ hn)⟩

theorem Agree.peek {data : List Nat} {a b : BR} (h : Agree data a b) {n : Nat} (hn : n ≤ a.nbits) :
    peek a n = peek b n := by
  rw [peek_value data a n h.left hn, peek_value data b n h.right (h.same.2 ▸ hn), h.same.1, h.same.2]

end BitReader
