import WebpVerif.Lemmas.HuffBuild

/-!
`HuffmanTree::build_implicit`: the builder accepts exactly the complete codes.  On a
complete code the symbol loop never fails: the depth loop never meets a `Leaf`, and ends on an
`Empty` node.  This needs the soundness of every leaf and branch of the secondary trees (`Snd`),
which in turn needs that no two paths lead to the same node (`Shape`).
-/
namespace Huff
open Prefix
open EncHuff (codeWord)

/-- soundness of the secondary trees - what is found in them is what was inserted (a leaf ends
    the word of a symbol below `kl`, a branch lies strictly inside the word of a symbol below `kb`).
    Two bounds, because symbol `k` gets its branches before its leaf: during its insertion
    `kl = k`, `kb = k + 1`. -/
structure Snd (ls : List Nat) (tb kl kb : Nat) (tree : Array Node) (table : Array Nat) : Prop where
  leaf : ∀ j root p m s, rootOf table j = some root → Bits p → Path tree root p m → tree[m]! = Node.leaf s →
    s < kl ∧ ∃ c, canonicalCode ls s = some c ∧ tb < ls.getD s 0 ∧ reverseBits c (ls.getD s 0) % 2 ^ tb = j ∧
      msbBits c (ls.getD s 0 - tb) = p
  branch : ∀ j root p m off, rootOf table j = some root → Bits p → Path tree root p m → tree[m]! = Node.branch off →
    ∃ s c q, s < kb ∧ canonicalCode ls s = some c ∧ tb < ls.getD s 0 ∧ reverseBits c (ls.getD s 0) % 2 ^ tb = j ∧
      q ≠ [] ∧ msbBits c (ls.getD s 0 - tb) = p ++ q
  used : ∀ j root, rootOf table j = some root →
    ∃ s c, s < kb ∧ canonicalCode ls s = some c ∧ tb < ls.getD s 0 ∧ reverseBits c (ls.getD s 0) % 2 ^ tb = j

namespace Snd
variable {ls : List Nat} {tb kl kb : Nat} {tree : Array Node} {table : Array Nat}

theorem mono {kl' kb' : Nat} (h1 : kl ≤ kl') (h2 : kb ≤ kb') (snd : Snd ls tb kl kb tree table) :
    Snd ls tb kl' kb' tree table := by
  refine { leaf := ?_, branch := ?_, used := ?_ }
  · intro j r p m s hr hb hp hm
    obtain ⟨a, b⟩ := snd.leaf j r p m s hr hb hp hm
    exact ⟨by omega, b⟩
  · intro j r p m off hr hb hp hm
    obtain ⟨s, c, q, a, b⟩ := snd.branch j r p m off hr hb hp hm
    exact ⟨s, c, q, by omega, b⟩
  · intro j r hr
    obtain ⟨s, c, a, b⟩ := snd.used j r hr
    exact ⟨s, c, by omega, b⟩

theorem congr {table' : Array Nat} (h : ∀ j, rootOf table' j = rootOf table j) (snd : Snd ls tb kl kb tree table) :
    Snd ls tb kl kb tree table' :=
  { leaf := fun j r p m s hr => snd.leaf j r p m s (by rw [← h]; exact hr),
    branch := fun j r p m off hr => snd.branch j r p m off (by rw [← h]; exact hr),
    used := fun j r hr => snd.used j r (by rw [← h]; exact hr) }

theorem edit {t' : Array Node} {n : Nat} {x : Node} (snd : Snd ls tb kl kb tree table) (ts : Shape tree table)
    (e : Edit tree t' n x) {j root : Nat} {pre : List Nat} (hroot : rootOf table j = some root) (hpre : Bits pre)
    (hpath : Path tree root pre n)
    (hleaf : ∀ s, x = .leaf s → s < kl ∧ ∃ c, canonicalCode ls s = some c ∧ tb < ls.getD s 0 ∧
      reverseBits c (ls.getD s 0) % 2 ^ tb = j ∧ msbBits c (ls.getD s 0 - tb) = pre)
    (hbranch : ∀ off, x = .branch off → ∃ s c q, s < kb ∧ canonicalCode ls s = some c ∧ tb < ls.getD s 0 ∧
      reverseBits c (ls.getD s 0) % 2 ^ tb = j ∧ q ≠ [] ∧ msbBits c (ls.getD s 0 - tb) = pre ++ q) :
    Snd ls tb kl kb t' table := by
  -- the only way to `n` is `pre` from `root`
  have hn : ∀ j' r' p, rootOf table j' = some r' → Bits p → Path t' r' p n → j' = j ∧ p = pre := by
    intro j' r' p hr hb hp
    exact path_unique tree table ts p pre j' j r' root n hb hpre hr hroot (e.path_old (fun _ _ => e.lt) p r' hp) hpath
  refine { leaf := ?_, branch := ?_, used := snd.used }
  · intro j' r' p m s hr hb hp hm
    by_cases hmn : m = n
    · subst hmn
      obtain ⟨rfl, rfl⟩ := hn j' r' p hr hb hp
      rw [e.get, if_pos rfl] at hm
      exact hleaf s hm
    · obtain ⟨o1, o2⟩ := e.old (by rw [hm]; exact fun h => by cases h) hmn
      exact snd.leaf j' r' p m s hr hb (e.path_old (fun _ _ => o1) p r' hp) (by rw [o2, hm])
  · intro j' r' p m off hr hb hp hm
    by_cases hmn : m = n
    · subst hmn
      obtain ⟨rfl, rfl⟩ := hn j' r' p hr hb hp
      rw [e.get, if_pos rfl] at hm
      exact hbranch off hm
    · obtain ⟨o1, o2⟩ := e.old (by rw [hm]; exact fun h => by cases h) hmn
      exact snd.branch j' r' p m off hr hb (e.path_old (fun _ _ => o1) p r' hp) (by rw [o2, hm])

theorem root {table' : Array Nat} {idx : Nat} (snd : Snd ls tb kl kb tree table)
    (hro : ∀ j r, rootOf table' j = some r → (j = idx ∧ r = tree.size) ∨ rootOf table j = some r)
    (hused : ∃ s c, s < kb ∧ canonicalCode ls s = some c ∧ tb < ls.getD s 0 ∧ reverseBits c (ls.getD s 0) % 2 ^ tb = idx) :
    Snd ls tb kl kb (tree.push .empty) table' := by
  -- from the new root, which is `Empty`, one gets nowhere
  have hnew : ∀ p m, Path (tree.push .empty) tree.size p m → (tree.push .empty)[m]! = .empty := by
    intro p m hp
    have hfresh : (tree.push Node.empty)[tree.size]! = Node.empty := by
      rw [aget_push_empty, aget_oob _ _ (Nat.le_refl _)]
    cases p with
    | nil =>
      have : tree.size = m := hp
      rw [← this, hfresh]
    | cons b bs =>
      obtain ⟨off, g1, _⟩ := hp
      rw [hfresh] at g1
      cases g1
  refine { leaf := ?_, branch := ?_, used := ?_ }
  · intro j r p m s hr hb hp hm
    rcases hro j r hr with ⟨_, rfl⟩ | h
    · rw [hnew p m hp] at hm
      cases hm
    · rw [aget_push_empty] at hm
      exact snd.leaf j r p m s h hb (path_push _ _ _ _ hp) hm
  · intro j r p m off hr hb hp hm
    rcases hro j r hr with ⟨_, rfl⟩ | h
    · rw [hnew p m hp] at hm
      cases hm
    · rw [aget_push_empty] at hm
      exact snd.branch j r p m off h hb (path_push _ _ _ _ hp) hm
  · intro j r hr
    rcases hro j r hr with ⟨rfl, _⟩ | h
    · exact hused
    · exact snd.used j r h

end Snd

/-- the depth loop never fails: from a node reached by the first bits of the word of symbol
    `k`, it walks (and extends) the tree along the remaining bits -/
theorem walk_total {ls : List Nat} (hfit : ∀ s c, canonicalCode ls s = some c → c < 2 ^ ls.getD s 0)
    {tb k c j root : Nat} {table : Array Nat}
    (hcan : canonicalCode ls k = some c) (hl : tb < ls.getD k 0)
    (hslot : reverseBits c (ls.getD k 0) % 2 ^ tb = j) (hroot : rootOf table j = some root) :
    ∀ (d : Nat) (tree : Array Node) (node : Nat) (pre : List Nat),
      Shape tree table → Snd ls tb k (k + 1) tree table → node < tree.size → Bits pre → Path tree root pre node →
      pre ++ msbBits c d = msbBits c (ls.getD k 0 - tb) →
      ∃ tree' node', walkInsert c d tree node = some (tree', node') ∧ Shape tree' table ∧ Snd ls tb k (k + 1) tree' table ∧
        Path tree' root (msbBits c (ls.getD k 0 - tb)) node' ∧ node' < tree'.size ∧ Keep tree tree' ∧
        tree'.size ≤ tree.size + 2 * d := by
  intro d
  induction d with
  | zero =>
    intro tree node pre ts snd hn _ hpath hfull
    have : pre = msbBits c (ls.getD k 0 - tb) := by rw [← hfull]; exact (List.append_nil pre).symm
    subst this
    exact ⟨tree, node, rfl, ts, snd, hpath, hn, Keep.refl _, Nat.le_refl _⟩
  | succ d ih =>
    intro tree node pre ts snd hn hbits hpath hfull
    have hb2 : c / 2 ^ d % 2 < 2 := Nat.mod_lt _ (by decide)
    rw [msbBits_cons] at hfull
    have hbits' : Bits (pre ++ [c / 2 ^ d % 2]) :=
      List.forall_mem_append.mpr ⟨hbits, fun x hx => by rw [List.mem_singleton.mp hx]; exact hb2⟩
    have hfull' : (pre ++ [c / 2 ^ d % 2]) ++ msbBits c d = msbBits c (ls.getD k 0 - tb) := by
      rw [List.append_assoc]; exact hfull
    rw [walkInsert]
    cases hnode : tree[node]! with
    | leaf s =>
      exfalso
      obtain ⟨hs, cs, h1, h2, h3, h4⟩ := snd.leaf j root pre node s hroot hbits hpath hnode
      exact Nat.ne_of_lt hs (same_of_path_prefix ls hfit tb s k cs c h1 hcan h2 hl (by rw [h3, hslot]) pre _ h4 hfull.symm)
    | branch off =>
      have hin := ts.childIn node off hnode
      obtain ⟨tree', node', a1, a2, a3, a4, a5, a6, a7⟩ := ih tree (node + off + c / 2 ^ d % 2) (pre ++ [c / 2 ^ d % 2]) ts snd
        (Nat.lt_of_le_of_lt (Nat.add_le_add_left (Nat.le_of_lt_succ hb2) _) hin) hbits'
        (path_snoc tree pre root node off _ hpath hnode) hfull'
      exact ⟨tree', node', a1, a2, a3, a4, a5, a6, by omega⟩
    | empty =>
      have e := edit_grow tree node hn hnode
      have hsz := (e.fresh _ rfl).2
      obtain ⟨tree', node', a1, a2, a3, a4, a5, a6, a7⟩ := ih _ (node + (tree.size - node) + c / 2 ^ d % 2)
        (pre ++ [c / 2 ^ d % 2]) (ts.edit e)
        (snd.edit ts e hroot hbits hpath (fun s h => by cases h)
          (fun _ _ => ⟨k, c, (c / 2 ^ d % 2) :: msbBits c d, Nat.lt_succ_self k, hcan, hl, hslot, List.cons_ne_nil _ _, hfull.symm⟩))
        (by omega) hbits'
        (path_snoc _ pre root node _ _ (path_keep e.keep _ _ _ hpath) (by rw [e.get, if_pos rfl])) hfull'
      exact ⟨tree', node', a1, a2, a3, a4, a5, Keep.trans e.keep a6, by omega⟩

/-- a long symbol, from the root of its slot: the depth loop succeeds, ends on an `Empty` node,
    and writing the leaf keeps every invariant -/
theorem long_total {ls : List Nat} (hfit : ∀ s c, canonicalCode ls s = some c → c < 2 ^ ls.getD s 0)
    {tb k c j root : Nat} {tree0 : Array Node} {table0 : Array Nat}
    (hcan : canonicalCode ls k = some c) (hl : tb < ls.getD k 0)
    (hslot : reverseBits c (ls.getD k 0) % 2 ^ tb = j) (hroot : rootOf table0 j = some root)
    (ts : Shape tree0 table0) (snd : Snd ls tb k (k + 1) tree0 table0) :
    ∃ tree1 node1, walkInsert c (ls.getD k 0 - tb) tree0 root = some (tree1, node1) ∧ tree1[node1]! = Node.empty ∧
      -- `tree2` names the tree with the leaf written once, for the six claims about it
      ∀ tree2, tree2 = tree1.setIfInBounds node1 (Node.leaf k) →
        Shape tree2 table0 ∧ Snd ls tb (k + 1) (k + 1) tree2 table0 ∧ Path tree2 root (msbBits c (ls.getD k 0 - tb)) node1 ∧
        tree2[node1]! = Node.leaf k ∧ Keep tree0 tree2 ∧ tree2.size ≤ tree0.size + 2 * (ls.getD k 0 - tb) := by
  obtain ⟨tree1, node1, hw, ts1, snd1, hp1, hn1, hk1, hs1⟩ := walk_total hfit hcan hl hslot hroot
    (ls.getD k 0 - tb) tree0 root [] ts snd (ts.rootIn j root hroot) (fun b hb => by cases hb) rfl rfl
  have hbits : Bits (msbBits c (ls.getD k 0 - tb)) := by
    intro b hb
    unfold msbBits at hb
    obtain ⟨i, _, rfl⟩ := List.mem_map.mp hb
    exact Nat.mod_lt _ (by decide)
  -- a leaf there would be a symbol whose word is a prefix of the word of `k`, a branch a symbol
  -- of whose word the word of `k` is a proper prefix
  have hempty : tree1[node1]! = Node.empty := by
    cases hnode : tree1[node1]! with
    | empty => rfl
    | leaf s =>
      exfalso
      obtain ⟨hs, cs, h1, h2, h3, h4⟩ := snd1.leaf j root _ node1 s hroot hbits hp1 hnode
      exact Nat.ne_of_lt hs (same_of_path_prefix ls hfit tb s k cs c h1 hcan h2 hl (by rw [h3, hslot]) _ [] h4 (List.append_nil _).symm)
    | branch off =>
      exfalso
      obtain ⟨s, cs, q, hs, h1, h2, h3, h4, h5⟩ := snd1.branch j root _ node1 off hroot hbits hp1 hnode
      have hks := same_of_path_prefix ls hfit tb k s c cs hcan h1 hl h2 (by rw [h3, hslot]) _ q rfl h5
      subst hks
      rw [hcan] at h1; injection h1 with h1; subst h1
      exact h4 (List.self_eq_append_right.mp h5)
  have e := edit_leaf tree1 node1 k hn1 hempty
  have hsz : (tree1.setIfInBounds node1 (Node.leaf k)).size = tree1.size := Array.size_setIfInBounds
  refine ⟨tree1, node1, hw, hempty, fun tree2 h2 => ?_⟩
  subst h2
  exact ⟨ts1.edit e,
    (snd1.mono (Nat.le_succ k) (Nat.le_refl _)).edit ts1 e hroot hbits hp1
      (fun s h => by injection h with h; subst h; exact ⟨Nat.lt_succ_self k, c, hcan, hl, hslot, rfl⟩) (fun _ h => by cases h),
    path_keep e.keep _ _ _ hp1, by rw [e.get, if_pos rfl], Keep.trans hk1 e.keep, by omega⟩

theorem insertSym_short (tb mask : Nat) (st : St) (s l : Nat) (h0 : l ≠ 0) (h : l ≤ tb) :
    insertSym tb mask st s l = some
      { next := st.next.setIfInBounds l ((st.next[l]! + 1) % 65536), tree := st.tree,
        table := fillTable st.table (l * 65536 + s) (2 ^ l) st.table.size (codeWord st.next[l]! l) } := by
  unfold insertSym
  rw [if_neg h0]
  exact if_pos h

theorem insertSym_long (tb mask : Nat) (st : St) (s l : Nat) (h : tb < l) (tree0 tree1 : Array Node) (table0 : Array Nat)
    (root node1 : Nat)
    (hr : (if st.table[codeWord st.next[l]! l % (mask + 1)]! = 0
            then (st.tree.push .empty, st.table.setIfInBounds (codeWord st.next[l]! l % (mask + 1)) (st.tree.size + 1), st.tree.size)
            else (st.tree, st.table, st.table[codeWord st.next[l]! l % (mask + 1)]! - 1)) = (tree0, table0, root))
    (hw : walkInsert st.next[l]! (l - tb) tree0 root = some (tree1, node1)) (he : tree1[node1]! = .empty) :
    insertSym tb mask st s l = some
      { next := st.next.setIfInBounds l ((st.next[l]! + 1) % 65536),
        tree := tree1.setIfInBounds node1 (.leaf s), table := table0 } := by
  unfold insertSym
  rw [if_neg (by omega), if_neg (by omega)]
  -- `-iota`: the match on the triple has to wait for `hr`; turned into projections of the `if`, it
  -- would make the kernel evaluate the condition (and multiply by 65536 in unary on the way)
  dsimp -iota only
  rw [hr]
  dsimp only
  rw [hw]
  dsimp only
  rw [he]

theorem rootOf_fill (table : Array Nat) (e l r : Nat) (hr : r < 2 ^ l) (he : 65536 ≤ e)
    (hnot : ∀ j, j % 2 ^ l = r → rootOf table j = none) (j : Nat) :
    rootOf (fillTable table e (2 ^ l) table.size r) j = rootOf table j := by
  by_cases hc : j % 2 ^ l = r ∧ j < table.size
  · rw [hnot j hc.1]
    unfold rootOf
    rw [fillTable_full _ _ _ _ hr, if_pos hc, if_neg (by omega)]
  · unfold rootOf
    rw [fillTable_full _ _ _ _ hr, if_neg hc]

variable {ls : List Nat} {L tb mask k : Nat} {st : St}

theorem slot_root (ctx : Ctx ls L tb mask) (hk : k < ls.length) (c : Nat)
    (hcan : canonicalCode ls k = some c) (hlong : tb < ls.getD k 0) (inv : Inv ls L tb k st.next st.tree st.table)
    (ts : Shape st.tree st.table) (snd : Snd ls tb k k st.tree st.table) (hb : st.tree.size ≤ 11 * k) (slot : Nat)
    (hslot : reverseBits c (ls.getD k 0) % 2 ^ tb = slot) :
    ∃ tree0 table0 root,
      (if st.table[slot]! = 0 then (st.tree.push .empty, st.table.setIfInBounds slot (st.tree.size + 1), st.tree.size)
        else (st.tree, st.table, st.table[slot]! - 1)) = (tree0, table0, root) ∧
      Inv ls L tb k st.next tree0 table0 ∧ Shape tree0 table0 ∧ Snd ls tb k (k + 1) tree0 table0 ∧
      rootOf table0 slot = some root ∧ tree0.size ≤ st.tree.size + 1 := by
  have hslt : slot < 2 ^ tb := by rw [← hslot]; exact Nat.mod_lt _ (Nat.two_pow_pos tb)
  have hlen := ctx.hlen
  by_cases htv : st.table[slot]! = 0
  · rw [if_pos htv]
    have hro : ∀ j, rootOf (st.table.setIfInBounds slot (st.tree.size + 1)) j =
        if j = slot then some st.tree.size else rootOf st.table j :=
      rootOf_set _ _ _ (by rw [inv.hsize]; exact hslt) (Nat.succ_ne_zero _) (by omega)
    have hro' : ∀ j r, rootOf (st.table.setIfInBounds slot (st.tree.size + 1)) j = some r →
        (j = slot ∧ r = st.tree.size) ∨ rootOf st.table j = some r := by
      intro j r h
      rw [hro] at h
      by_cases hj : j = slot
      · rw [if_pos hj] at h; injection h with h; exact Or.inl ⟨hj, h.symm⟩
      · rw [if_neg hj] at h; exact Or.inr h
    exact ⟨_, _, _, rfl, inv.root hslt htv (by omega), ts.root hro',
      (snd.mono (Nat.le_refl _) (Nat.le_succ k)).root hro' ⟨k, c, Nat.lt_succ_self k, hcan, hlong, hslot⟩,
      by rw [hro, if_pos rfl], by rw [Array.size_push]⟩
  · rw [if_neg htv]
    rcases inv.hts slot hslt with hz | ⟨s, cs, s2, s3, s4⟩ | ⟨root, hroot⟩
    · exact absurd hz htv
    · -- an entry there would be a short symbol whose word is a prefix of the word of `k`
      exfalso
      rw [← hslot, mod_mod_pow _ _ _ s3] at s4
      have := pf_index ls ctx.hfit k s c cs hcan s2 (by omega) s4
      subst this
      omega
    · exact ⟨_, _, root, by rw [(rootOf_some hroot).1, Nat.add_sub_cancel], inv, ts, snd.mono (Nat.le_refl _) (Nat.le_succ k),
        hroot, Nat.le_succ _⟩

/-- one iteration of the symbol loop never fails and keeps the invariants.  The bound on the
    vector (11 = one root + two nodes for each of the at most five steps of the depth loop: lengths
    ≤ 15, table bits 10) keeps every `root + 1` below the entry marker 65536. -/
theorem step_total (ctx : Ctx ls L tb mask) (hk : k < ls.length)
    (inv : Inv ls L tb k st.next st.tree st.table) (ts : Shape st.tree st.table) (snd : Snd ls tb k k st.tree st.table)
    (hb : st.tree.size ≤ 11 * k) :
    ∃ st', insertSym tb mask st k (ls.getD k 0) = some st' ∧ Inv ls L tb (k + 1) st'.next st'.tree st'.table ∧
      Shape st'.tree st'.table ∧ Snd ls tb (k + 1) (k + 1) st'.tree st'.table ∧ st'.tree.size ≤ 11 * (k + 1) := by
  by_cases h0 : ls.getD k 0 = 0
  · rw [h0]
    exact ⟨st, rfl, inv.zero hk h0, ts, snd.mono (Nat.le_succ k) (Nat.le_succ k), by omega⟩
  · obtain ⟨c, hc, hcan, hcw, hrl⟩ := code_at ctx hk h0 inv
    by_cases hs : ls.getD k 0 ≤ tb
    · rw [insertSym_short tb mask st k _ h0 hs, hc, hcw]
      -- no slot that is overwritten holds a root: its symbol's word would have the word of `k` as a prefix
      have hroots := rootOf_fill st.table (ls.getD k 0 * 65536 + k) (ls.getD k 0) _ hrl (Nat.le_add_right_of_le (Nat.le_mul_of_pos_left _ (Nat.pos_of_ne_zero h0)))
        (by intro j hj
            cases hr : rootOf st.table j with
            | none => rfl
            | some r =>
              exfalso
              obtain ⟨s, cs, s1, s2, s3, s4⟩ := snd.used j r hr
              exact Nat.ne_of_gt s1 (pf_index ls ctx.hfit s k cs c s2 hcan (Nat.le_of_lt (Nat.lt_of_le_of_lt hs s3))
                (by rw [← hj, ← s4, mod_mod_pow _ _ _ hs])))
      exact ⟨_, rfl, inv.short ctx hk hs c hc hcan hroots, ts.congr hroots,
        (snd.mono (Nat.le_succ k) (Nat.le_succ k)).congr hroots, Nat.le_trans hb (Nat.mul_le_mul_left 11 (Nat.le_succ k))⟩
    · have hlong := Nat.lt_of_not_le hs
      obtain ⟨h10, h15⟩ := ctx.long (getD_mem ls k hk) hlong
      obtain ⟨tree0, table0, root, hr, inv0, ts0, snd0, hroot, z0⟩ :=
        slot_root ctx hk c hcan hlong inv ts snd hb _ rfl
      obtain ⟨tree1, node1, hw, hempty, h2⟩ := long_total ctx.hfit hcan hlong rfl hroot ts0 snd0
      obtain ⟨ts2, snd2, hp, hleaf, k2, z2⟩ := h2 _ rfl
      refine ⟨_, insertSym_long tb mask st k _ hlong tree0 tree1 table0 root node1 (by rw [hc, hcw, ctx.hmask]; exact hr)
        (by rw [hc]; exact hw) hempty, ?_, ts2, snd2, Nat.le_trans z2 (by omega)⟩
      rw [hc]
      exact inv0.leaf ctx hk hlong c hc hcan k2 hroot hp hleaf

theorem insertAll_total (ctx : Ctx ls L tb mask) (st0 : St)
    (inv0 : Inv ls L tb 0 st0.next st0.tree st0.table) (ts0 : Shape st0.tree st0.table) (snd0 : Snd ls tb 0 0 st0.tree st0.table)
    (hb0 : st0.tree.size ≤ 11 * 0) :
    ∀ k, k ≤ ls.length → ∃ st, insertAll tb mask ls k st0 = some st ∧ Inv ls L tb k st.next st.tree st.table ∧
      Shape st.tree st.table ∧ Snd ls tb k k st.tree st.table ∧ st.tree.size ≤ 11 * k := by
  intro k
  induction k with
  | zero => intro _; exact ⟨st0, rfl, inv0, ts0, snd0, hb0⟩
  | succ k ih =>
    intro hk
    obtain ⟨st, h1, h2, h3, h4, h5⟩ := ih (by omega)
    obtain ⟨st', g1, g2⟩ := step_total ctx (by omega) h2 h3 h4 h5
    refine ⟨st', ?_, g2⟩
    rw [insertAll, h1]
    exact g1

/-- `read_symbol` on a table entry with a length: the fast path -/
theorem look_entry (t : HT) (v l s : Nat) (h : t.table[v % (t.mask + 1)]! = l * 65536 + s) (hl : l ≠ 0) (hs : s < 65536) :
    look t v = some (s, l) := by
  unfold look
  rw [h]
  have hd : (l * 65536 + s) / 65536 = l := by omega
  have hmod : (l * 65536 + s) % 65536 = s := by omega
  rw [← hd] at hl
  exact (if_pos hl).trans (by rw [hd, hmod])

/-- `read_symbol` on a table entry that points to a secondary tree: the slow path from its root -/
theorem look_pointer (t : HT) (v root : Nat) (h : rootOf t.table (v % (t.mask + 1)) = some root) :
    look t v = slow t.tree 16 (v / 1024) root 10 := by
  obtain ⟨h1, h2⟩ := rootOf_some h
  unfold look
  rw [h1]
  have hd : ¬ (root + 1) / 65536 ≠ 0 := by omega
  have hmod : (root + 1) % 65536 - 1 = root := by omega
  exact (if_neg hd).trans (by rw [hmod])

theorem good_of_inv (ctx : Ctx ls L tb mask) {tree : Array Node} {table : Array Nat} {next : Array Nat}
    (inv : Inv ls L tb ls.length next tree table) : Good { tree := tree, table := table, mask := mask } ls := by
  intro s c v hv hcan hmv
  obtain ⟨s1, s2, _⟩ := canonical_some ls s c hcan
  have hfit := ctx.hfit s c hcan
  have hlL : ls.getD s 0 ≤ L := ctx.hall _ (getD_mem ls s s1)
  have hL := ctx.hL
  have hlen := ctx.hlen
  by_cases hsl : ls.getD s 0 ≤ tb
  · refine look_entry _ v _ s ?_ s2 (by omega)
    rw [ctx.hmask]
    exact inv.hshort s c s1 hcan hsl (v % 2 ^ tb) (Nat.mod_lt _ (Nat.two_pow_pos _)) (by rw [mod_mod_pow _ _ _ hsl]; exact hmv)
  · have hlong := Nat.lt_of_not_le hsl
    obtain ⟨rfl, _⟩ := ctx.long (getD_mem ls s s1) hlong
    obtain ⟨root, m, r1, r3, r4⟩ := inv.hlong s c s1 hcan hlong
    rw [look_pointer _ v root (by rw [ctx.hmask, ← r1, ← hmv, mod_mod_pow _ _ _ (Nat.le_of_lt hlong)])]
    have hlen : (msbBits c (ls.getD s 0 - 10)).length = ls.getD s 0 - 10 := msbBits_length _ _
    have hbits : msbBits c (ls.getD s 0 - 10) = lsbBits (v / 1024) (msbBits c (ls.getD s 0 - 10)).length := by
      rw [hlen]
      exact (peek_tail v c (ls.getD s 0) 10 hfit (by omega) hmv).symm
    rw [slow_path tree s _ 16 (v / 1024) root m 10 r3 r4 hbits (by rw [hlen]; omega), hlen]
    rw [Nat.add_sub_cancel' (Nat.le_of_lt hlong)]

theorem rootOf_replicate (n j : Nat) : rootOf (Array.replicate n 0) j = none := by
  unfold rootOf
  rw [ArrayWrites.get_zeros]; simp

/-- a code with two or more used symbols that is complete at its longest length is accepted,
    and the table and trees answer every peek that starts with a code word by its symbol -/
theorem build_complete (ls : List Nat) (hall : ∀ l ∈ ls, l ≤ 15) (hn : ls.length ≤ 5000)
    (hnum : 2 ≤ (ls.filter (· ≠ 0)).length) (hend : blockEnd ls (ls.foldl max 0) = 2 ^ ls.foldl max 0) :
    ∃ t, build ls = .ok t ∧ Good t ls := by
  unfold build
  simp only
  rw [if_neg (by omega), if_neg (by omega)]
  generalize hLdef : ls.foldl max 0 = L at hend
  have hmaxall := EncHuff.le_foldl_max ls 0
  rw [hLdef] at hmaxall
  have hL15 : L ≤ 15 := by rw [← hLdef]; exact EncHuff.foldl_max_le ls 0 15 (Nat.zero_le _) hall
  obtain ⟨n1, n2, n3⟩ := nextCodes_spec ls L hL15
  rw [n1, nextCode_succ, hend, if_neg (by rw [Nat.mul_comm]; exact fun h => h rfl)]
  have ctx : Ctx ls L (min L 10) (2 ^ min L 10 - 1) :=
    { hL := hL15, hall := hmaxall, hfit := fun s c hs => canonical_lt ls L (Nat.le_of_eq hend) s c hs (by
        obtain ⟨s1, _, _⟩ := canonical_some ls s c hs
        exact hmaxall _ (getD_mem ls s s1)),
      hmask := Nat.sub_add_cancel (Nat.two_pow_pos _),
      hlen := hn,
      hlongtb := fun l hl => by
        have := hmaxall l hl
        rcases Nat.le_total L 10 with h10 | h10
        · left; rw [Nat.min_eq_left h10]; exact this
        · right; exact Nat.min_eq_right h10 }
  have inv0 : Inv ls L (min L 10) 0 (nextCodes ls L).1 #[] (Array.replicate (2 ^ min L 10) 0) := by
    refine { hnsz := n2, hnext := ?_, hsize := Array.size_replicate, hshort := ?_, hlong := ?_, hts := ?_ }
    · intro len h1 h2
      rw [n3 len h1 h2]
      have hb := blockEnd_le ls L (Nat.le_of_eq hend) len h2
      have hle : nextCode ls len ≤ blockEnd ls len := by unfold blockEnd; exact Nat.le_add_right _ _
      have hp : 2 ^ len ≤ 2 ^ 15 := Nat.pow_le_pow_right (by decide) (Nat.le_trans h2 hL15)
      have : (2 : Nat) ^ 15 = 32768 := by decide
      rw [Nat.mod_eq_of_lt (by omega)]
      rfl
    · intro s c hs; cases hs
    · intro s c hs; cases hs
    · exact fun j _ => .inl (ArrayWrites.get_zeros _ j)
  have ts0 : Shape (#[] : Array Node) (Array.replicate (2 ^ min L 10) 0) := by
    refine { childIn := ?_, oneParent := ?_, rootNoParent := ?_, rootsDistinct := ?_, rootIn := ?_ }
    · intro i off hi; simp at hi
    · intro i i' off off' b b' hi; simp at hi
    · intro j r i off b hr; rw [rootOf_replicate] at hr; cases hr
    · intro j j' r hr; rw [rootOf_replicate] at hr; cases hr
    · intro j r hr; rw [rootOf_replicate] at hr; cases hr
  have snd0 : Snd ls (min L 10) 0 0 (#[] : Array Node) (Array.replicate (2 ^ min L 10) 0) := by
    refine { leaf := ?_, branch := ?_, used := ?_ }
    · intro j r p m s hr; rw [rootOf_replicate] at hr; cases hr
    · intro j r p m off hr; rw [rootOf_replicate] at hr; cases hr
    · intro j r hr; rw [rootOf_replicate] at hr; cases hr
  obtain ⟨st, hst, inv, _⟩ := insertAll_total ctx { next := (nextCodes ls L).1, tree := #[], table := Array.replicate (2 ^ min L 10) 0 }
    inv0 ts0 snd0 (Nat.le_refl _) ls.length (Nat.le_refl _)
  rw [hst]
  exact ⟨_, rfl, good_of_inv ctx inv⟩

/-- whenever the (model of the) builder returns a table/tree, that structure is
    `Good`, and the code is complete -/
theorem build_good (ls : List Nat) (hall : ∀ l ∈ ls, l ≤ 15) (hn : ls.length ≤ 5000) (t : HT) (h : build ls = .ok t) :
    Good t ls ∧ 2 ≤ (ls.filter (· ≠ 0)).length ∧ ∃ L, 1 ≤ L ∧ L ≤ 15 ∧ (∀ l ∈ ls, l ≤ L) ∧ blockEnd ls L = 2 ^ L := by
  -- the two tests the builder makes before the symbol loop
  have htests : 2 ≤ (ls.filter (· ≠ 0)).length ∧ (nextCodes ls (ls.foldl max 0)).2 = 2 * 2 ^ ls.foldl max 0 := by
    unfold build at h
    simp only at h
    by_cases hnum0 : (ls.filter (· ≠ 0)).length = 0
    · rw [if_pos hnum0] at h; cases h
    · rw [if_neg hnum0] at h
      by_cases hnum1 : (ls.filter (· ≠ 0)).length = 1
      · rw [if_pos hnum1] at h; cases h
      · rw [if_neg hnum1] at h
        by_cases hcur : (nextCodes ls (ls.foldl max 0)).2 = 2 * 2 ^ ls.foldl max 0
        · exact ⟨by omega, hcur⟩
        · rw [if_pos hcur] at h; cases h
  obtain ⟨hnum, hcur⟩ := htests
  have hmax := EncHuff.le_foldl_max ls 0
  have hL15 : ls.foldl max 0 ≤ 15 := EncHuff.foldl_max_le ls 0 15 (by omega) hall
  have hend : blockEnd ls (ls.foldl max 0) = 2 ^ ls.foldl max 0 := by
    rw [(nextCodes_spec ls _ hL15).1, nextCode_succ] at hcur
    omega
  have hL1 : 1 ≤ ls.foldl max 0 := by
    rcases Nat.eq_zero_or_pos (ls.foldl max 0) with h0 | h0
    · rw [h0] at hend
      cases hend
    · exact h0
  obtain ⟨t', ht', hgood⟩ := build_complete ls hall hn hnum hend
  rw [h] at ht'
  injection ht' with ht'
  rw [ht']
  exact ⟨hgood, hnum, _, hL1, hL15, hmax, hend⟩

/-- totality: every valid code of the specification (lengths ≤ 15, at most 5000
    symbols) is accepted by the (model of the) builder -/
theorem build_total (ls : List Nat) (hall : ∀ l ∈ ls, l ≤ 15) (hn : ls.length ≤ 5000) (hv : validLengths ls = true) :
    (∃ t, build ls = .ok t) ∨ (∃ s, build ls = .single s) := by
  unfold validLengths at hv
  simp only [Bool.and_eq_true, Bool.or_eq_true, beq_iff_eq, decide_eq_true_eq] at hv
  obtain ⟨_, hv⟩ := hv
  rcases hv with h1 | ⟨h2, hkraft⟩
  · right
    unfold build
    simp only
    rw [if_neg (by omega), if_pos h1]
    exact ⟨_, rfl⟩
  · left
    -- completeness at 15 is completeness at the longest length
    have hL15 : ls.foldl max 0 ≤ 15 := EncHuff.foldl_max_le ls 0 15 (by omega) hall
    have hmax := EncHuff.le_foldl_max ls 0
    have hk := EncHuff.kraft_above ls _ 15 hmax hL15
    rw [hkraft, EncHuff.kraft_eq_blockEnd ls _ hmax, show (2 : Nat) ^ 15 = 2 ^ ls.foldl max 0 * 2 ^ (15 - ls.foldl max 0) by rw [← Nat.pow_add]; congr 1; omega] at hk
    obtain ⟨t, ht, _⟩ := build_complete ls hall hn h2 (Nat.eq_of_mul_eq_mul_right (Nat.two_pow_pos _) hk).symm
    exact ⟨t, ht⟩

end Huff
