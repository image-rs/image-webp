import WebpVerif.Lemmas.HuffTree

/-!
`HuffmanTree::build_implicit`: the code assignment (`next_codes`) hands out the canonical
code words, they fit their lengths when the validity test passes, and the prefix-freeness of the
canonical code in the vocabulary of table indices (bit-reversed words).
-/
namespace Huff
open Prefix

theorem hist_eq (ls : List Nat) (len : Nat) (h : len ≠ 0) : hist ls len = blCount ls len := by
  unfold hist blCount
  congr 1
  apply List.filter_congr
  intro l _
  by_cases hl : l = len
  · subst hl; simp [h]
  · simp [hl]

theorem nextCodes_spec (ls : List Nat) : ∀ m, m ≤ 15 →
    (nextCodes ls m).2 = nextCode ls (m + 1) ∧ (nextCodes ls m).1.size = 16 ∧
    ∀ len, 1 ≤ len → len ≤ m → (nextCodes ls m).1[len]! = nextCode ls len % 65536 := by
  intro m
  induction m with
  | zero => intro _; exact ⟨rfl, by simp [nextCodes], fun len h1 h2 => absurd (Nat.le_trans h1 h2) (Nat.not_succ_le_zero 0)⟩
  | succ m ih =>
    intro hm
    obtain ⟨i1, i2, i3⟩ := ih (Nat.le_of_succ_le hm)
    have e : nextCodes ls (m + 1) = ((nextCodes ls m).1.setIfInBounds (m + 1) ((nextCodes ls m).2 % 65536),
        ((nextCodes ls m).2 + hist ls (m + 1)) * 2) := rfl
    rw [e]
    refine ⟨?_, by simp [i2], fun len h1 h2 => ?_⟩
    · simp only
      rw [i1, hist_eq ls (m + 1) (Nat.succ_ne_zero m)]
      show _ = (nextCode ls (m + 1) + (if m + 1 = 0 then 0 else blCount ls (m + 1))) * 2
      rw [if_neg (Nat.succ_ne_zero m)]
    · simp only
      rw [ArrayWrites.get_set]
      by_cases hl : len = m + 1
      · rw [if_pos ⟨hl, by rw [i2]; exact Nat.lt_succ_of_le hm⟩, i1, hl]
      · rw [if_neg (fun hh => hl hh.1)]
        exact i3 len h1 (Nat.le_of_lt_succ (Nat.lt_of_le_of_ne h2 hl))

/-- prefix-freeness on table indices: the reversed word of `t` is not the low bits of the
    reversed word of a different symbol `s` -/
theorem pf_index (ls : List Nat) (hfit : ∀ s c, canonicalCode ls s = some c → c < 2 ^ ls.getD s 0)
    (s t cs ct : Nat) (hs : canonicalCode ls s = some cs) (ht : canonicalCode ls t = some ct)
    (hle : ls.getD t 0 ≤ ls.getD s 0)
    (h : reverseBits cs (ls.getD s 0) % 2 ^ ls.getD t 0 = reverseBits ct (ls.getD t 0)) : t = s := by
  obtain ⟨d, hd⟩ := Nat.exists_eq_add_of_le hle
  rw [hd, reverse_mod] at h
  have hcs := hfit s cs hs
  have hct := hfit t ct ht
  have hlt : cs / 2 ^ d < 2 ^ ls.getD t 0 := by
    rw [hd, Nat.pow_add] at hcs
    exact Nat.div_lt_of_lt_mul (by rw [Nat.mul_comm]; exact hcs)
  have := reverse_inj _ _ _ hlt hct h
  exact prefix_free ls t s ct cs ht hs hle (by rw [hd, Nat.add_sub_cancel_left]; exact this.symm)

/-- a peek that starts with the word of `s` carries the tail of that word above bit `a` -/
theorem peek_tail (v c l a : Nat) (hc : c < 2 ^ l) (ha : a ≤ l) (h : v % 2 ^ l = reverseBits c l) :
    lsbBits (v / 2 ^ a) (l - a) = msbBits c (l - a) := by
  have e1 : lsbBits v l = msbBits c l := by rw [← lsbBits_mod, h, lsb_reverse_eq_msb]
  obtain ⟨b, rfl⟩ := Nat.exists_eq_add_of_le ha
  rw [lsbBits_split, msbBits_split] at e1
  have hl : (lsbBits v a).length = (msbBits (c / 2 ^ b) a).length := by rw [lsbBits_length, msbBits_length]
  have := (List.append_inj e1 hl).2
  rw [Nat.add_sub_cancel_left]
  exact this

/-- two words in the same slot, the bits after the slot of one a prefix of the other's: the first word
    is the top of the second -/
theorem top_of_path_prefix (tb l m cs ct : Nat) (hcs : cs < 2 ^ l) (hct : ct < 2 ^ m) (hl : tb ≤ l) (hm : tb ≤ m)
    (hslot : reverseBits cs l % 2 ^ tb = reverseBits ct m % 2 ^ tb) (pre rest : List Nat)
    (hps : msbBits cs (l - tb) = pre) (hpt : msbBits ct (m - tb) = pre ++ rest) : l ≤ m ∧ cs = ct / 2 ^ (m - l) := by
  obtain ⟨a, rfl⟩ := Nat.exists_eq_add_of_le hl
  obtain ⟨b, rfl⟩ := Nat.exists_eq_add_of_le hm
  rw [Nat.add_sub_cancel_left] at hps hpt
  have hl1 : pre.length = a := by rw [← hps, msbBits_length]
  have hl2 : pre.length + rest.length = b := by rw [← List.length_append, ← hpt, msbBits_length]
  obtain ⟨r, rfl⟩ : ∃ r, b = a + r := ⟨rest.length, by rw [← hl2, hl1]⟩
  refine ⟨Nat.add_le_add_left (Nat.le_add_right a r) tb, ?_⟩
  rw [← Nat.add_assoc, Nat.add_sub_cancel_left]
  -- the slot holds the top `tb` bits of both words
  have hq : cs / 2 ^ a = ct / 2 ^ (a + r) := by
    rw [reverse_mod, reverse_mod] at hslot
    exact reverse_inj tb _ _ (Nat.div_lt_of_lt_mul (by rw [← Nat.pow_add, Nat.add_comm]; exact hcs))
      (Nat.div_lt_of_lt_mul (by rw [← Nat.pow_add, Nat.add_comm]; exact hct)) hslot
  have hlt' : ct / 2 ^ r < 2 ^ (tb + a) :=
    Nat.div_lt_of_lt_mul (by rw [← Nat.pow_add, Nat.add_comm, Nat.add_assoc]; exact hct)
  rw [← msbVal_msbBits _ cs hcs, ← msbVal_msbBits _ _ hlt']
  congr 1
  rw [msbBits_split] at hpt
  rw [msbBits_split, msbBits_split _ a, hq, hps, Nat.div_div_eq_div_mul, ← Nat.pow_add, Nat.add_comm r a,
    (List.append_inj hpt (by rw [msbBits_length, hl1])).1]

/-- two long symbols in the same slot, the tree path of one a prefix of the other's: the same symbol -/
theorem same_of_path_prefix (ls : List Nat) (hfit : ∀ s c, canonicalCode ls s = some c → c < 2 ^ ls.getD s 0) (tb s t cs ct : Nat)
    (hs : canonicalCode ls s = some cs) (ht : canonicalCode ls t = some ct) (hls : tb < ls.getD s 0) (hlt : tb < ls.getD t 0)
    (hslot : reverseBits cs (ls.getD s 0) % 2 ^ tb = reverseBits ct (ls.getD t 0) % 2 ^ tb) (pre rest : List Nat)
    (hps : msbBits cs (ls.getD s 0 - tb) = pre) (hpt : msbBits ct (ls.getD t 0 - tb) = pre ++ rest) : s = t := by
  obtain ⟨hle, hpre⟩ := top_of_path_prefix tb _ _ cs ct (hfit s cs hs) (hfit t ct ht) (Nat.le_of_lt hls) (Nat.le_of_lt hlt)
    hslot pre rest hps hpt
  exact prefix_free ls s t cs ct hs ht hle hpre

end Huff
