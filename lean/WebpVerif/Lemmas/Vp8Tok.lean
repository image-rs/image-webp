import WebpVerif.Model.Vp8Coef
import WebpVerif.Spec.Vp8Tokens
import WebpVerif.Lemmas.Arith
import WebpVerif.Lemmas.ArithRfc

/-!
One coefficient token: the model's tree walk over `DCT_TOKEN_TREE` (entered at node `skip`) plus
its category tables against libwebp's explicit bit tests (`Vp8Tokens.token`), for every
well-formed decoder state (`Arith.WF`), probability vector and start node.
-/
namespace Vp8TokProof
open Arith Vp8Coef Vp8Tokens

/-- the public bit read, as the bit source of the reference -/
def pub (d : Dec) (p : Nat) : Bool × Dec := readBool d p

theorem readExtra_catBits : ∀ (ts : List Nat) (d : Dec) (v : Nat), readExtra ts d v = catBits pub ts d v := by
  intro ts
  induction ts with
  | nil => intro d v; rfl
  | cons t ts ih =>
    intro d v
    unfold readExtra catBits
    by_cases h0 : t = 0
    · rw [if_pos h0, if_pos h0]
    · rw [if_neg h0, if_neg h0]
      exact ih _ _

section
variable {S : Type} (bit : S → Nat → Bool × S)

/-- the arms of `read_coefficients` for leaf `token`, over any bit source -/
def valueOf (token : Nat) (s : S) : Option (Tok × S) :=
  if token = 11 then some (.eob, s)
  else if token = 0 then some (.zero, s)
  else if token ≤ 4 then some (.value token, s)
  else
    let r := catBits bit (Gen.Tables.PROB_DCT_CAT.getD (token - 5) []) s 0
    some (.value (Gen.Tables.DCT_CAT_BASE.getD (token - 5) 0 + r.1), r.2)

theorem valueOf_cat1 (s : S) :
    valueOf bit 5 s = some (.value (5 + (bit s 159).1.toNat), (bit s 159).2) := by
  simp [valueOf, catBits, Gen.Tables.PROB_DCT_CAT, Gen.Tables.DCT_CAT_BASE]

theorem valueOf_cat2 (s : S) :
    valueOf bit 6 s =
      some (.value (7 + 2 * (bit s 165).1.toNat + (bit (bit s 165).2 145).1.toNat), (bit (bit s 165).2 145).2) := by
  simp [valueOf, catBits, Gen.Tables.PROB_DCT_CAT, Gen.Tables.DCT_CAT_BASE]
  rw [Nat.two_mul, Nat.add_assoc 7]

/-- leaves 7..10 are the categories 3..6: the row of `PROB_DCT_CAT` is libwebp's `kCat3456[cat]` up to
    trailing zeros, the base is `3 + (8 << cat)` -/
theorem valueOf_cat (cat : Nat) (hc : cat < 4) (s : S) :
    valueOf bit (7 + cat) s = some (.value ((catBits bit (kCat3456 cat) s 0).1 + 3 + 8 * 2 ^ cat),
      (catBits bit (kCat3456 cat) s 0).2) := by
  have e : ∀ (b : Nat) (r : Nat × S),
      some (Tok.value (b + 8 + r.1), r.2) = some (Tok.value (r.1 + 3 + (b + 5)), r.2) := by
    intro b r; rw [Nat.add_comm (b + 8), Nat.add_assoc r.1 3, Nat.add_left_comm 3 b 5]
  rcases cat with _ | _ | _ | _ | cat
  · exact e 3 _
  · exact e 11 _
  · exact e 27 _
  · exact e 59 _
  · omega

end

/-- the token part of `Vp8Coef.stepAt`: the tree read and the value the token stands for -/
def readToken (d : Dec) (ps : List Nat) (skip : Bool) : Option (Tok × Dec) :=
  (readTreeFrom d (treeNodesFrom Gen.Tables.DCT_TOKEN_TREE ps).toArray (if skip then 1 else 0)).bind
    fun r => valueOf pub r.1 r.2

/-- the nodes of the token tree with the probabilities `p 0 … p 10`. A branch below 11 is a node
    index; a branch `128 + t` is the leaf for token `t` (`prepareBranch`), so 139 is token 11, end
    of block. -/
def T (p : Nat → Nat) : Array Node :=
  #[⟨139, 1, p 0⟩, ⟨128, 2, p 1⟩, ⟨129, 3, p 2⟩, ⟨4, 6, p 3⟩, ⟨130, 5, p 4⟩, ⟨131, 132, p 5⟩, ⟨7, 8, p 6⟩, ⟨133, 134, p 7⟩,
    ⟨9, 10, p 8⟩, ⟨135, 136, p 9⟩, ⟨137, 138, p 10⟩]

theorem token_nodes (ps : List Nat) (hl : ps.length = 11) :
    (treeNodesFrom Gen.Tables.DCT_TOKEN_TREE ps).toArray = T (fun k => ps.getD k 0) := by
  match ps, hl with
  | [_, _, _, _, _, _, _, _, _, _, _], _ => rfl

/- The walks below compare the cold tree walk with the reference's bit tests over a bit source `bit`
   that agrees with the cold read on well-formed states.  At each node: one step of the walk, the
   cold bit is `bit`'s, then the bit and the state it leaves become variables and the bit is split.
   `bit` being a variable, both sides then compute, and `rfl` closes the leaves.
   Fuel: a walk visits at most 4 nodes from node 3 (3, 6, 8, then 9 or 10), two more from node 1,
   one more from the root; `fuel + 5`, `+ 7`, `+ 8` is one above that, and the caller picks `fuel`
   so that the sum is the `size + 1 = 12` of `readTreeFrom_cold`. -/

/-- from node 3 on: `GetLargeValue` -/
theorem walk3 (bit : Dec → Nat → Bool × Dec)
    (hbit : ∀ d p, WF d → p < 256 → coldReadBit d p = bit d p ∧ WF (bit d p).2)
    (p : Nat → Nat) (hp : ∀ k, p k < 256) (fuel : Nat) (d : Dec) (hw : WF d) :
    (coldReadTree (T p) (fuel + 5) d 3).bind (fun r => valueOf bit r.1 r.2) =
      some (.value (getLargeValue bit p d).1, (getLargeValue bit p d).2) := by
  simp only [getLargeValue]
  rw [cold_step _ _ _ 3 4 6 (p 3) rfl, (hbit d (p 3) hw (hp 3)).1]
  have hw := (hbit d (p 3) hw (hp 3)).2
  generalize (bit d (p 3)).1 = b
  generalize (bit d (p 3)).2 = d at hw ⊢
  cases b
  · show (coldReadTree (T p) _ _ 4).bind _ = _
    rw [cold_step _ _ _ 4 130 5 (p 4) rfl, (hbit d (p 4) hw (hp 4)).1]
    have hw := (hbit d (p 4) hw (hp 4)).2
    generalize (bit d (p 4)).1 = b
    generalize (bit d (p 4)).2 = d at hw ⊢
    cases b
    · rfl
    · show (coldReadTree (T p) _ _ 5).bind _ = _
      rw [cold_step _ _ _ 5 131 132 (p 5) rfl, (hbit d (p 5) hw (hp 5)).1]
      generalize (bit d (p 5)).1 = b
      cases b <;> rfl
  · show (coldReadTree (T p) _ _ 6).bind _ = _
    rw [cold_step _ _ _ 6 7 8 (p 6) rfl, (hbit d (p 6) hw (hp 6)).1]
    have hw := (hbit d (p 6) hw (hp 6)).2
    generalize (bit d (p 6)).1 = b
    generalize (bit d (p 6)).2 = d at hw ⊢
    cases b
    · show (coldReadTree (T p) _ _ 7).bind _ = _
      rw [cold_step _ _ _ 7 133 134 (p 7) rfl, (hbit d (p 7) hw (hp 7)).1]
      generalize (bit d (p 7)).1 = b
      cases b
      · exact valueOf_cat1 bit _
      · exact valueOf_cat2 bit _
    · show (coldReadTree (T p) _ _ 8).bind _ = _
      rw [cold_step _ _ _ 8 9 10 (p 8) rfl, (hbit d (p 8) hw (hp 8)).1]
      have hw := (hbit d (p 8) hw (hp 8)).2
      generalize (bit d (p 8)).1 = b
      generalize (bit d (p 8)).2 = d at hw ⊢
      cases b
      · simp only [Bool.toNat_false, Nat.add_zero]
        show (coldReadTree (T p) _ _ 9).bind _ = _
        rw [cold_step _ _ _ 9 135 136 (p 9) rfl, (hbit d (p 9) hw (hp 9)).1]
        generalize (bit d (p 9)).1 = b
        cases b
        · exact valueOf_cat bit 0 (by decide) _
        · exact valueOf_cat bit 1 (by decide) _
      · simp only [Bool.toNat_true]
        show (coldReadTree (T p) _ _ 10).bind _ = _
        rw [cold_step _ _ _ 10 137 138 (p 10) rfl, (hbit d (p 10) hw (hp 10)).1]
        generalize (bit d (p 10)).1 = b
        cases b
        · exact valueOf_cat bit 2 (by decide) _
        · exact valueOf_cat bit 3 (by decide) _

/-- from node 1 on (no end-of-block test): zero, one, or a larger value -/
theorem walk1 (bit : Dec → Nat → Bool × Dec)
    (hbit : ∀ d p, WF d → p < 256 → coldReadBit d p = bit d p ∧ WF (bit d p).2)
    (p : Nat → Nat) (hp : ∀ k, p k < 256) (fuel : Nat) (d : Dec) (hw : WF d) :
    (coldReadTree (T p) (fuel + 7) d 1).bind (fun r => valueOf bit r.1 r.2) = some (token bit p true d) := by
  simp only [token, if_true]
  rw [cold_step _ _ _ 1 128 2 (p 1) rfl, (hbit d (p 1) hw (hp 1)).1]
  have hw := (hbit d (p 1) hw (hp 1)).2
  generalize (bit d (p 1)).1 = b
  generalize (bit d (p 1)).2 = d at hw ⊢
  cases b
  · rfl
  · show (coldReadTree (T p) _ _ 2).bind _ = _
    rw [cold_step _ _ _ 2 129 3 (p 2) rfl, (hbit d (p 2) hw (hp 2)).1]
    have hw := (hbit d (p 2) hw (hp 2)).2
    generalize (bit d (p 2)).1 = b
    generalize (bit d (p 2)).2 = d at hw ⊢
    cases b
    · rfl
    · exact walk3 bit hbit p hp fuel d hw

/-- from the root: end of block, or as from node 1 -/
theorem walk0 (bit : Dec → Nat → Bool × Dec)
    (hbit : ∀ d p, WF d → p < 256 → coldReadBit d p = bit d p ∧ WF (bit d p).2)
    (p : Nat → Nat) (hp : ∀ k, p k < 256) (fuel : Nat) (d : Dec) (hw : WF d) :
    (coldReadTree (T p) (fuel + 8) d 0).bind (fun r => valueOf bit r.1 r.2) = some (token bit p false d) := by
  have e : token bit p false d =
      if !(bit d (p 0)).1 then (Tok.eob, (bit d (p 0)).2) else token bit p true (bit d (p 0)).2 := rfl
  rw [e, cold_step _ _ _ 0 139 1 (p 0) rfl, (hbit d (p 0) hw (hp 0)).1]
  have hw := (hbit d (p 0) hw (hp 0)).2
  generalize (bit d (p 0)).1 = b
  generalize (bit d (p 0)).2 = d at hw ⊢
  cases b
  · rfl
  · exact walk1 bit hbit p hp fuel d hw

theorem pub_cold (d : Dec) (p : Nat) (hw : WF d) (hp : p < 256) : coldReadBit d p = pub d p ∧ WF (pub d p).2 := by
  unfold pub; rw [readBool_cold d p hp hw.1]; exact ⟨rfl, coldReadBit_wf d p hp hw⟩

theorem treeGood_token (ps : List Nat) (hl : ps.length = 11) (hp : ∀ p ∈ ps, p < 256) :
    ArithRfc.treeGood Gen.Tables.DCT_TOKEN_TREE ps = true := by
  unfold ArithRfc.treeGood
  simp only [Bool.and_eq_true, beq_iff_eq, decide_eq_true_eq, List.all_eq_true]
  refine ⟨⟨⟨⟨⟨by decide, by rw [hl]; decide⟩, by decide⟩, by decide⟩, by decide⟩, ?_⟩
  intro p hpm
  simpa using hp p hpm

/-- **one coefficient token = libwebp's bit tests**: the model's tree read plus category decoding
    returns what `GetCoeffs` / `GetLargeValue` compute with the same public bit reads -/
theorem readToken_is_reference (d : Dec) (hwf : WF d) (ps : List Nat) (hl : ps.length = 11) (hp : ∀ p ∈ ps, p < 256) (skip : Bool) :
    readToken d ps skip = some (token pub (fun k => ps.getD k 0) skip d) := by
  have f := ArithRfc.treeFacts _ _ (treeGood_token ps hl hp)
  have hstart : (if skip = true then 1 else 0) < Gen.Tables.DCT_TOKEN_TREE.length / 2 := by cases skip <;> decide
  unfold readToken
  rw [← ArithRfc.nodesOf, ArithRfc.readTreeFrom_good _ _ f d hwf _ hstart]
  unfold ArithRfc.nodesOf
  rw [token_nodes ps hl]
  cases skip
  · exact walk0 pub pub_cold _ f.prob 4 d hwf
  · exact walk1 pub pub_cold _ f.prob 5 d hwf

/-- what `read_coefficients` does with a token at position `i`: stop, note a zero, or read the
    sign, dequantise and store at the zigzag position -/
def applyTok (dcq acq : Int) (i : Nat) (s : St) : Tok × Dec → St ⊕ St
  | (.eob, d) => .inl { s with d := d }
  | (.zero, d) => .inr { s with d := d, skip := true, has := true, complexity := 0 }
  | (.value v, d) =>
    .inr { d := (readFlag d).2,
           block := s.block.setIfInBounds (Gen.Tables.ZIGZAG.getD i 0)
             ((if (readFlag d).1 then -(v : Int) else v) * (if Gen.Tables.ZIGZAG.getD i 0 > 0 then acq else dcq)),
           complexity := if v = 0 then 0 else if v = 1 then 1 else 2, skip := false, has := true }

theorem stepAt_eq (probs : Nat → Nat → List Nat) (dcq acq : Int) (i : Nat) (s : St) :
    stepAt probs dcq acq i s =
      (readToken s.d (probs (Gen.Tables.COEFF_BANDS.getD i 0) s.complexity) s.skip).map (applyTok dcq acq i s) := by
  unfold stepAt readToken
  simp only
  cases readTreeFrom s.d (treeNodesFrom Gen.Tables.DCT_TOKEN_TREE (probs (Gen.Tables.COEFF_BANDS.getD i 0) s.complexity)).toArray
      (if s.skip = true then 1 else 0) with
  | none => rfl
  | some r =>
    obtain ⟨token, d⟩ := r
    simp only [Option.bind_some, valueOf, readExtra_catBits]
    by_cases h11 : token = 11
    · rw [if_pos h11, if_pos h11]; rfl
    · rw [if_neg h11, if_neg h11]
      by_cases h0 : token = 0
      · rw [if_pos h0, if_pos h0]; rfl
      · rw [if_neg h0, if_neg h0]
        by_cases h4 : token ≤ 4
        · rw [if_pos h4]; simp only [h4, if_true]; rfl
        · rw [if_neg h4]; simp only [h4, if_false]; rfl

/-- **the loop body of `read_coefficients` with libwebp's token decoding** -/
theorem stepAt_is_reference (probs : Nat → Nat → List Nat)
    (hprobs : ∀ band ctx, (probs band ctx).length = 11 ∧ ∀ p ∈ probs band ctx, p < 256)
    (dcq acq : Int) (i : Nat) (s : St) (hwf : WF s.d) :
    stepAt probs dcq acq i s =
      some (applyTok dcq acq i s
        (token pub (fun k => (probs (Gen.Tables.COEFF_BANDS.getD i 0) s.complexity).getD k 0) s.skip s.d)) := by
  rw [stepAt_eq, readToken_is_reference s.d hwf _ (hprobs _ _).1 (hprobs _ _).2]
  rfl

end Vp8TokProof
