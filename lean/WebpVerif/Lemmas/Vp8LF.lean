import WebpVerif.Spec.Vp8FilterOrder

/-!
The loop filter around its kernels: the per-macroblock level is a double clamp to 0..63, and the
driver's edges are libwebp's loops - each `vEdge` / `hEdge` call of `Vp8LF.filterMb`, given by
block coordinates, is the `FilterLoop` call of `DoFilter` at the corresponding plane offset.
libwebp names its loops after the direction of filtering: `HFilter*` filters horizontally, across
a vertical edge (`vEdge`), `VFilter*` across a horizontal one (`hEdge`).
-/
namespace Vp8K

theorem clamp63_eq (v : Int) : clamp63 v = if v > 63 then 63 else if v < 0 then 0 else v := by
  unfold clamp63; split <;> (try split) <;> omega

theorem clamp63_range (v : Int) : 0 ≤ clamp63 v ∧ clamp63 v ≤ 63 := by unfold clamp63; omega

theorem clamp63_of_range {v : Int} (h0 : 0 ≤ v) (h1 : v ≤ 63) : clamp63 v = v := by unfold clamp63; omega

theorem edgeLimits (l i : Nat) : subEdgeLimit l i = 2 * l + i ∧ mbEdgeLimit l i = 2 * l + i + 4 := by
  unfold subEdgeLimit mbEdgeLimit; omega

end Vp8K

namespace Vp8LFProof
open Vp8K Vp8LF LibwebpLF

/-- a vertical edge `d` columns into the block at `(x0, y0)`, in libwebp's pointer arithmetic -/
theorem vEdge_loop (f : Edge → Edge) (buf : Array Nat) (w x0 d y0 n : Nat) :
    vEdge f buf w (x0 + d) y0 n = filterLoop f buf (y0 * w + x0 + d) 1 w n := by
  unfold vEdge filterLoop
  have : ∀ i, (y0 + i) * w + (x0 + d) = y0 * w + x0 + d + i * w := fun i => by rw [Nat.add_mul]; omega
  simp only [this]

theorem hEdge_loop (f : Edge → Edge) (buf : Array Nat) (w x0 y0 d n : Nat) :
    hEdge f buf w x0 (y0 + d) n = filterLoop f buf (y0 * w + x0 + d * w) w 1 n := by
  unfold hEdge filterLoop
  have : ∀ i, (y0 + d) * w + x0 + i = y0 * w + x0 + d * w + i * 1 := fun i => by rw [Nat.add_mul]; omega
  simp only [this]

variable (f : Edge → Edge) (buf : Array Nat) (w x0 y0 : Nat)

theorem hFilter16_eq : vEdge f buf w x0 y0 16 = hFilter16 f buf (y0 * w + x0) w :=
  vEdge_loop f buf w x0 0 y0 16

theorem hFilter8_eq : vEdge f buf w x0 y0 8 = hFilter8 f buf (y0 * w + x0) w :=
  vEdge_loop f buf w x0 0 y0 8

theorem hFilter8i_eq : vEdge f buf w (x0 + 4) y0 8 = hFilter8i f buf (y0 * w + x0) w :=
  vEdge_loop f buf w x0 4 y0 8

theorem hFilter16i_eq :
    [4, 8, 12].foldl (fun b x => vEdge f b w (x0 + x) y0 16) buf = hFilter16i f buf (y0 * w + x0) w := by
  simp only [List.foldl, vEdge_loop]; rfl

theorem vFilter16_eq : hEdge f buf w x0 y0 16 = vFilter16 f buf (y0 * w + x0) w := by
  have := hEdge_loop f buf w x0 y0 0 16
  rwa [Nat.zero_mul] at this

theorem vFilter8_eq : hEdge f buf w x0 y0 8 = vFilter8 f buf (y0 * w + x0) w := by
  have := hEdge_loop f buf w x0 y0 0 8
  rwa [Nat.zero_mul] at this

theorem vFilter8i_eq : hEdge f buf w x0 (y0 + 4) 8 = vFilter8i f buf (y0 * w + x0) w :=
  hEdge_loop f buf w x0 y0 4 8

theorem vFilter16i_eq :
    [4, 8, 12].foldl (fun b r => hEdge f b w x0 (y0 + r) 16) buf = vFilter16i f buf (y0 * w + x0) w := by
  simp only [List.foldl, hEdge_loop]
  rw [show 8 * w = 4 * w + 4 * w by omega, show 12 * w = 4 * w + 4 * w + 4 * w by omega]
  simp only [← Nat.add_assoc]; rfl

/-- **the loop-filter driver visits the edges as the reference decoder does** -/
theorem filterMb_is_doFilter (isSimple : Bool) (level il hev : Nat) (inner : Bool) (W CW mbx mby : Nat) (p : Planes) :
    filterMb isSimple level il hev inner W CW mbx mby p = doFilter isSimple level il hev inner W CW mbx mby p := by
  unfold filterMb doFilter
  -- `zeta := false`: every stage is used in both branches of the next `if`, so the chains of
  -- `let`s stay folded; the inner edges first, their calls also match the outer-edge lemmas
  simp (config := { zeta := false }) only [hFilter16i_eq, vFilter16i_eq, hFilter8i_eq, vFilter8i_eq]
  simp (config := { zeta := false }) only [hFilter16_eq, vFilter16_eq, hFilter8_eq, vFilter8_eq,
    (edgeLimits level il).1, (edgeLimits level il).2]
  rfl

end Vp8LFProof
