import WebpVerif.Model.EncContainer
import WebpVerif.Spec.Riff

/-!
The specification's demultiplexer reads back any list of chunks printed the way `write_chunk`
prints them, behind a RIFF header that carries their total size.
-/
namespace EncContainer
open Riff

theorem le_le32 (n : Nat) (h : n < 2 ^ 32) : le (le32 n) = n := by
  have top : n / 256 / 256 / 256 < 256 := by
    rw [Nat.div_div_eq_div_mul, Nat.div_div_eq_div_mul]; exact Nat.div_lt_of_lt_mul h
  show n % 256 + 256 * (n / 256 % 256 + 256 * (n / (256 * 256) % 256 + 256 * (n / (256 * 256 * 256) % 256 + 256 * 0))) = n
  rw [← Nat.div_div_eq_div_mul, ← Nat.div_div_eq_div_mul, ← Nat.div_div_eq_div_mul, Nat.mul_zero, Nat.add_zero,
    Nat.mod_eq_of_lt top, Nat.mod_add_div, Nat.mod_add_div, Nat.mod_add_div]

/-- the three low bytes, as the 24-bit fields of the VP8X chunk are written -/
theorem le_take3 (n : Nat) (h : n < 2 ^ 24) : le ((le32 n).take 3) = n := by
  have top : n / 256 / 256 < 256 := by rw [Nat.div_div_eq_div_mul]; exact Nat.div_lt_of_lt_mul h
  show n % 256 + 256 * (n / 256 % 256 + 256 * (n / (256 * 256) % 256 + 256 * 0)) = n
  rw [← Nat.div_div_eq_div_mul, Nat.mul_zero, Nat.add_zero, Nat.mod_eq_of_lt top, Nat.mod_add_div, Nat.mod_add_div]

theorem le32_length (n : Nat) : (le32 n).length = 4 := rfl

/-- the bytes one `write_chunk` call produces -/
def chunkBytes (name data : List Nat) : List Nat := (writeChunk name data).flatten

def pad (data : List Nat) : List Nat := if data.length % 2 = 1 then [0] else []

theorem pad_length (data : List Nat) : (pad data).length = data.length % 2 := by
  unfold pad
  split
  · next h => rw [h]; rfl
  · next h => rw [Nat.mod_two_ne_one.mp h]; rfl

theorem chunkBytes_eq (name data : List Nat) :
    chunkBytes name data = name ++ (le32 (data.length % 2 ^ 32) ++ (data ++ pad data)) := by
  unfold chunkBytes writeChunk pad
  split <;> simp

theorem chunkBytes_length (name data : List Nat) (hn : name.length = 4) :
    (chunkBytes name data).length = data.length + data.length % 2 + 8 := by
  rw [chunkBytes_eq]
  simp only [List.length_append, hn, le32_length, pad_length]
  omega

/-- a chunk whose name has four bytes and whose payload, padded, still fits the 32-bit size field -/
def ChunkOk (c : List Nat × List Nat) : Prop := c.1.length = 4 ∧ c.2.length + 1 < 2 ^ 32

theorem split_two_words (a b rest : List Nat) (ha : a.length = 4) (hb : b.length = 4) :
    (a ++ (b ++ rest)).take 4 = a ∧ ((a ++ (b ++ rest)).drop 4).take 4 = b ∧ (a ++ (b ++ rest)).drop 8 = rest :=
  ⟨List.take_left' ha, by rw [List.drop_left' ha, List.take_left' hb],
    by rw [← List.append_assoc]; exact List.drop_left' (by rw [List.length_append, ha, hb])⟩

theorem parseChunks_header (fuel : Nat) (cc z body : List Nat) (hcc : cc.length = 4) (hz : z.length = 4) :
    parseChunks (fuel + 1) (cc ++ (z ++ body)) =
      (if body.length < le z + le z % 2 then none else
       if le z % 2 = 1 ∧ body[le z]? ≠ some 0 then none else
       match parseChunks fuel (body.drop (le z + le z % 2)) with
       | none => none
       | some rest => some ((cc, body.take (le z)) :: rest)) := by
  obtain ⟨h4, h48, h8⟩ := split_two_words cc z body hcc hz
  rw [parseChunks]
  · simp only [h4, h48, h8]
    rw [if_neg (by simp only [List.length_append, hcc, hz]; omega)]
    rfl
  · intro h; rw [h] at h4; rw [← h4] at hcc; cases hcc

theorem parseChunks_chunk (fuel : Nat) (name data rest : List Nat) (hok : ChunkOk (name, data)) :
    parseChunks (fuel + 1) (chunkBytes name data ++ rest) =
      (parseChunks fuel rest).map (fun r => (name, data) :: r) := by
  obtain ⟨hn, hd⟩ := hok
  have hlt : data.length < 2 ^ 32 := Nat.lt_of_succ_lt hd
  have hdrop : (data ++ (pad data ++ rest)).drop (data.length + data.length % 2) = rest := by
    rw [← pad_length, ← List.append_assoc]; exact List.drop_left' List.length_append
  have hpad : data.length % 2 = 1 → (data ++ (pad data ++ rest))[data.length]? = some 0 := by
    intro h; rw [List.getElem?_append_right (Nat.le_refl _), Nat.sub_self, pad, if_pos h]; rfl
  rw [chunkBytes_eq, Nat.mod_eq_of_lt hlt]
  simp only [List.append_assoc]
  rw [parseChunks_header fuel name _ _ hn (le32_length _), le_le32 _ hlt, hdrop, List.take_left' rfl,
    if_neg (by rw [← List.append_assoc, List.length_append, List.length_append, pad_length]; exact Nat.not_lt.mpr (Nat.le_add_right ..)),
    if_neg (fun h => h.2 (hpad h.1))]
  cases parseChunks fuel rest <;> rfl

theorem parseChunks_list (cs : List (List Nat × List Nat)) (hok : ∀ c ∈ cs, ChunkOk c) :
    ∀ fuel, cs.length ≤ fuel → parseChunks fuel (cs.flatMap fun c => chunkBytes c.1 c.2) = some cs := by
  induction cs with
  | nil => intro fuel _; cases fuel <;> simp [parseChunks]
  | cons c cs ih =>
    intro fuel hf
    match fuel with
    | 0 => simp at hf
    | fuel + 1 =>
      rw [List.flatMap_cons, parseChunks_chunk fuel c.1 c.2 _ (hok c (by simp)),
        ih (fun c' hc' => hok c' (by simp [hc'])) fuel (by simp at hf; omega)]
      rfl

theorem length_flatMap (cs : List (List Nat × List Nat)) (hok : ∀ c ∈ cs, ChunkOk c) :
    (cs.flatMap fun c => chunkBytes c.1 c.2).length = (cs.map fun c => c.2.length + c.2.length % 2 + 8).sum := by
  induction cs with
  | nil => rfl
  | cons c cs ih =>
    rw [List.flatMap_cons, List.length_append, chunkBytes_length _ _ (hok c List.mem_cons_self).1,
      ih fun c' hc' => hok c' (List.mem_cons_of_mem _ hc'), List.map_cons, List.sum_cons]

theorem length_le_flatMap (cs : List (List Nat × List Nat)) (hok : ∀ c ∈ cs, ChunkOk c) :
    cs.length ≤ (cs.flatMap fun c => chunkBytes c.1 c.2).length := by
  induction cs with
  | nil => exact Nat.le_refl _
  | cons c cs ih =>
    have := ih fun c' hc' => hok c' (List.mem_cons_of_mem _ hc')
    rw [List.flatMap_cons, List.length_append, chunkBytes_length _ _ (hok c List.mem_cons_self).1, List.length_cons]
    omega

theorem riff_length (body : List Nat) (n : Nat) (hn : n = body.length + 4) :
    (ascii "RIFF" ++ (le32 n ++ (ascii "WEBP" ++ body))).length = n + 8 := by
  subst hn
  rfl

/-- parse ∘ print for a whole file -/
theorem demux_chunks (cs : List (List Nat × List Nat)) (hok : ∀ c ∈ cs, ChunkOk c) (n : Nat)
    (hn : n = (cs.flatMap fun c => chunkBytes c.1 c.2).length + 4) (h32 : n < 2 ^ 32) :
    demux (ascii "RIFF" ++ (le32 n ++ (ascii "WEBP" ++ cs.flatMap fun c => chunkBytes c.1 c.2))) =
      some { riffSize := n, chunks := cs } := by
  have hfuel : cs.length ≤ n + 8 := by have := length_le_flatMap cs hok; omega
  have hparse := parseChunks_list cs hok _ hfuel
  generalize (cs.flatMap fun c => chunkBytes c.1 c.2) = body at hn hparse ⊢
  obtain ⟨t1, t2, t3⟩ := split_two_words (ascii "RIFF") (le32 n) (ascii "WEBP" ++ body) rfl rfl
  have t4 : (ascii "WEBP" ++ body).take 4 = ascii "WEBP" := List.take_left' rfl
  have t5 : (ascii "RIFF" ++ (le32 n ++ (ascii "WEBP" ++ body))).drop 12 = body := by
    rw [show 12 = 8 + 4 from rfl, ← List.drop_drop, t3]; exact List.drop_left' rfl
  simp only [demux, t1, t2, t3, t4, t5, riff_length body n hn, hparse, le_le32 n h32, ne_eq, not_true_eq_false, if_false]

-- bookkeeping for the optional chunks of `encode`, used by Props/C09

theorem vp8x_length (icc exif xmp : List Nat) (w h : Nat) (a : Bool) : (vp8xPayload icc exif xmp w h a).length = 10 := rfl

theorem flatten_opt (c : Bool) (name data : List Nat) :
    (if c then writeChunk name data else []).flatten =
      (if c then [(name, data)] else []).flatMap (fun c => chunkBytes c.1 c.2) := by
  cases c <;> simp [chunkBytes]

theorem sum_opt {α : Type} (c : Bool) (x : α) (f : α → Nat) :
    ((if c then [x] else []).map f).sum = if c then f x else 0 := by
  cases c <;> rfl

theorem opt_le (c : Bool) (x : Nat) : (if c then x else 0) ≤ x := by
  cases c
  · exact Nat.zero_le x
  · exact Nat.le_refl x

end EncContainer
