import WebpVerif.Lemmas.HuffCodes

/-!
`HuffmanTree::build_implicit`: the symbol loop fills the primary table and the secondary
trees so that every symbol inserted so far is found again (`Inv`), whichever way its slot's root
and its path come about.
-/
namespace Huff
open Prefix
open EncHuff (codeWord)

theorem mod_unique (a j step : Nat) (h1 : a ≤ j) (h2 : j < a + step) (h3 : j % step = a % step) : j = a := by
  have h := Nat.sub_mod_eq_zero_of_mod_eq h3
  rw [Nat.mod_eq_of_lt (Nat.sub_lt_left_of_lt_add h1 h2)] at h
  exact Nat.le_antisymm (Nat.le_of_sub_eq_zero h) h1

/-- the fill loop, given fuel enough to reach the end of the table -/
theorem fillTable_spec (e step r : Nat) (hstep : 0 < step) : ∀ (fuel a : Nat) (t : Array Nat),
    a % step = r → t.size ≤ a + fuel →
    (fillTable t e step fuel a).size = t.size ∧
    ∀ j, (fillTable t e step fuel a)[j]! = if a ≤ j ∧ j % step = r ∧ j < t.size then e else t[j]! := by
  intro fuel
  induction fuel with
  | zero =>
    intro a t _ hf
    exact ⟨rfl, fun j => by rw [if_neg (by omega)]; rfl⟩
  | succ fuel ih =>
    intro a t ha hf
    rw [fillTable]
    by_cases hlt : a < t.size
    · rw [if_pos hlt]
      obtain ⟨i1, i2⟩ := ih (a + step) (t.setIfInBounds a e) (by rw [Nat.add_mod_right]; exact ha)
        (by rw [Array.size_setIfInBounds]; omega)
      refine ⟨by rw [i1, Array.size_setIfInBounds], fun j => ?_⟩
      rw [i2 j, Array.size_setIfInBounds, ArrayWrites.get_set]
      by_cases hc : a + step ≤ j ∧ j % step = r ∧ j < t.size
      · rw [if_pos hc, if_pos ⟨Nat.le_trans (Nat.le_add_right a step) hc.1, hc.2⟩]
      · rw [if_neg hc]
        by_cases hja : j = a
        · rw [if_pos ⟨hja, hlt⟩, if_pos ⟨Nat.le_of_eq hja.symm, by rw [hja]; exact ha, hja ▸ hlt⟩]
        · rw [if_neg (fun hh => hja hh.1), if_neg]
          intro hh
          by_cases hj2 : j < a + step
          · exact hja (mod_unique a j step hh.1 hj2 (by rw [hh.2.1, ha]))
          · exact hc ⟨Nat.le_of_not_lt hj2, hh.2⟩
    · rw [if_neg hlt]
      exact ⟨rfl, fun j => by rw [if_neg (by omega)]⟩

/-- the fill loop as the builder calls it -/
theorem fillTable_full (t : Array Nat) (e l r : Nat) (hr : r < 2 ^ l) (j : Nat) :
    (fillTable t e (2 ^ l) t.size r)[j]! = if j % 2 ^ l = r ∧ j < t.size then e else t[j]! := by
  obtain ⟨_, h⟩ := fillTable_spec e (2 ^ l) r (Nat.two_pow_pos l) t.size r t (Nat.mod_eq_of_lt hr) (Nat.le_add_left _ _)
  rw [h j]
  by_cases hm : j % 2 ^ l = r ∧ j < t.size
  · rw [if_pos hm, if_pos ⟨by rw [← hm.1]; exact Nat.mod_le _ _, hm⟩]
  · rw [if_neg hm, if_neg (fun hh => hm hh.2)]

theorem fillTable_size (t : Array Nat) (e l r : Nat) (hr : r < 2 ^ l) :
    (fillTable t e (2 ^ l) t.size r).size = t.size :=
  (fillTable_spec e (2 ^ l) r (Nat.two_pow_pos l) t.size r t (Nat.mod_eq_of_lt hr) (Nat.le_add_left _ _)).1

theorem canonical_at (ls : List Nat) (k : Nat) (hk : k < ls.length) (h0 : ls.getD k 0 ≠ 0) :
    canonicalCode ls k = some (nextCode ls (ls.getD k 0) + rank ls k (ls.getD k 0)) :=
  canonical_of_get ls k _ (by rw [List.getD_eq_getElem?_getD, List.getElem?_eq_getElem hk]; rfl) h0

/-- the first `k` symbols are in place: the code-word counters, every slot of a short symbol, the
    root, path and leaf of a long one - and the table holds nothing else -/
structure Inv (ls : List Nat) (L tb k : Nat) (next : Array Nat) (tree : Array Node) (table : Array Nat) : Prop where
  hnsz : next.size = 16
  hnext : ∀ len, 1 ≤ len → len ≤ L → next[len]! = nextCode ls len + rank ls k len
  hsize : table.size = 2 ^ tb
  hshort : ∀ s c, s < k → canonicalCode ls s = some c → ls.getD s 0 ≤ tb → ∀ j, j < 2 ^ tb →
    j % 2 ^ ls.getD s 0 = reverseBits c (ls.getD s 0) → table[j]! = ls.getD s 0 * 65536 + s
  hlong : ∀ s c, s < k → canonicalCode ls s = some c → tb < ls.getD s 0 →
    ∃ root m, rootOf table (reverseBits c (ls.getD s 0) % 2 ^ tb) = some root ∧
      Path tree root (msbBits c (ls.getD s 0 - tb)) m ∧ tree[m]! = Node.leaf s
  hts : ∀ j, j < 2 ^ tb → table[j]! = 0 ∨
    (∃ s c, canonicalCode ls s = some c ∧ ls.getD s 0 ≤ tb ∧ j % 2 ^ ls.getD s 0 = reverseBits c (ls.getD s 0)) ∨
    (∃ root, rootOf table j = some root)

/-- facts about the code that do not change during the loop -/
structure Ctx (ls : List Nat) (L tb mask : Nat) : Prop where
  hL : L ≤ 15
  hall : ∀ l ∈ ls, l ≤ L
  hfit : ∀ s c, canonicalCode ls s = some c → c < 2 ^ ls.getD s 0
  hmask : mask + 1 = 2 ^ tb
  -- keeps every symbol and every `root + 1 ≤ 11 · 5000 + 1` below the entry marker 65536; the format's
  -- largest alphabet has 2328 symbols
  hlen : ls.length ≤ 5000
  hlongtb : ∀ l ∈ ls, l ≤ tb ∨ tb = 10

variable {ls : List Nat} {L tb mask k : Nat} {next : Array Nat} {tree : Array Node} {table : Array Nat}

/-- only with ten table bits is there a long symbol -/
theorem Ctx.long (ctx : Ctx ls L tb mask) {l : Nat} (hl : l ∈ ls) (h : tb < l) : tb = 10 ∧ l ≤ 15 :=
  ⟨(ctx.hlongtb l hl).resolve_left (Nat.not_le_of_lt h), Nat.le_trans (ctx.hall l hl) ctx.hL⟩

theorem Inv.zero (hk : k < ls.length) (h0 : ls.getD k 0 = 0) (inv : Inv ls L tb k next tree table) :
    Inv ls L tb (k + 1) next tree table := by
  have hnone : canonicalCode ls k = none := by
    unfold canonicalCode
    rw [List.getElem?_eq_getElem hk]
    have : ls[k] = 0 := by rw [List.getD_eq_getElem?_getD, List.getElem?_eq_getElem hk] at h0; exact h0
    rw [this]
    rfl
  refine { hnsz := inv.hnsz, hnext := ?_, hsize := inv.hsize, hshort := ?_, hlong := ?_, hts := inv.hts }
  · intro len h1 h2
    rw [rank_succ ls k len hk, if_neg (by omega), Nat.add_zero]
    exact inv.hnext len h1 h2
  · intro s c hs hc
    rcases Nat.lt_succ_iff_lt_or_eq.mp hs with hlt | rfl
    · exact inv.hshort s c hlt hc
    · rw [hnone] at hc; cases hc
  · intro s c hs hc
    rcases Nat.lt_succ_iff_lt_or_eq.mp hs with hlt | rfl
    · exact inv.hlong s c hlt hc
    · rw [hnone] at hc; cases hc

theorem code_at (ctx : Ctx ls L tb mask) (hk : k < ls.length) (h0 : ls.getD k 0 ≠ 0) (inv : Inv ls L tb k next tree table) :
    ∃ c, next[ls.getD k 0]! = c ∧ canonicalCode ls k = some c ∧
      codeWord c (ls.getD k 0) = reverseBits c (ls.getD k 0) ∧ reverseBits c (ls.getD k 0) < 2 ^ ls.getD k 0 := by
  have hlL : ls.getD k 0 ≤ L := ctx.hall _ (getD_mem ls k hk)
  have hcan := canonical_at ls k hk h0
  have hfit := ctx.hfit k _ hcan
  refine ⟨_, inv.hnext _ (Nat.pos_of_ne_zero h0) hlL, hcan, EncHuff.codeWord_eq _ _ (by have := ctx.hL; omega) hfit, ?_⟩
  rw [EncHuff.reverseBits_eq]; exact EncHuff.bitSum_lt _ _

theorem next_step (ctx : Ctx ls L tb mask) (hk : k < ls.length) (inv : Inv ls L tb k next tree table) (c : Nat)
    (hc : next[ls.getD k 0]! = c) (hcan : canonicalCode ls k = some c) :
    ∀ len, 1 ≤ len → len ≤ L →
      (next.setIfInBounds (ls.getD k 0) ((c + 1) % 65536))[len]! = nextCode ls len + rank ls (k + 1) len := by
  intro len h1 h2
  have hfit := ctx.hfit k c hcan
  have hlL : ls.getD k 0 ≤ L := ctx.hall _ (getD_mem ls k hk)
  have hL := ctx.hL
  rw [ArrayWrites.get_set, rank_succ ls k len hk]
  by_cases hl : len = ls.getD k 0
  · rw [if_pos ⟨hl, by rw [inv.hnsz]; omega⟩, if_pos hl.symm]
    have hp : 2 ^ ls.getD k 0 ≤ 2 ^ 15 := Nat.pow_le_pow_right (by decide) (Nat.le_trans hlL hL)
    have : (2 : Nat) ^ 15 = 32768 := by decide
    rw [Nat.mod_eq_of_lt (by omega), ← hc, hl, inv.hnext _ (hl ▸ h1) hlL, Nat.add_assoc]
  · rw [if_neg (fun hh => hl hh.1), if_neg (fun hh => hl hh.symm), Nat.add_zero]
    exact inv.hnext len h1 h2

/-- a short symbol; `hroots`: none of the slots it overwrites holds a root -/
theorem Inv.short (ctx : Ctx ls L tb mask) (hk : k < ls.length) (hs : ls.getD k 0 ≤ tb) (inv : Inv ls L tb k next tree table)
    (c : Nat) (hc : next[ls.getD k 0]! = c) (hcan : canonicalCode ls k = some c)
    (hroots : ∀ j, rootOf (fillTable table (ls.getD k 0 * 65536 + k) (2 ^ ls.getD k 0) table.size
      (reverseBits c (ls.getD k 0))) j = rootOf table j) :
    Inv ls L tb (k + 1) (next.setIfInBounds (ls.getD k 0) ((c + 1) % 65536)) tree
      (fillTable table (ls.getD k 0 * 65536 + k) (2 ^ ls.getD k 0) table.size (reverseBits c (ls.getD k 0))) := by
  have hrl : reverseBits c (ls.getD k 0) < 2 ^ ls.getD k 0 := by rw [EncHuff.reverseBits_eq]; exact EncHuff.bitSum_lt _ _
  have htab : ∀ j, j < 2 ^ tb → (fillTable table (ls.getD k 0 * 65536 + k) (2 ^ ls.getD k 0) table.size
      (reverseBits c (ls.getD k 0)))[j]! =
      if j % 2 ^ ls.getD k 0 = reverseBits c (ls.getD k 0) then ls.getD k 0 * 65536 + k else table[j]! := by
    intro j hj
    rw [fillTable_full _ _ _ _ hrl j]
    simp only [show j < table.size by rw [inv.hsize]; exact hj, and_true]
  refine { hnsz := by rw [Array.size_setIfInBounds]; exact inv.hnsz, hnext := next_step ctx hk inv c hc hcan,
           hsize := by rw [fillTable_size _ _ _ _ hrl, inv.hsize], hshort := ?_, hlong := ?_, hts := ?_ }
  · intro s cs hsk hcs hsl j hj hm
    rw [htab j hj]
    rcases Nat.lt_succ_iff_lt_or_eq.mp hsk with hlt | rfl
    · by_cases hmk : j % 2 ^ ls.getD k 0 = reverseBits c (ls.getD k 0)
      · -- a slot that carries the word of `k` carries the word of no earlier symbol
        exfalso
        rcases Nat.le_total (ls.getD k 0) (ls.getD s 0) with hle | hle
        · exact Nat.ne_of_gt hlt (pf_index ls ctx.hfit s k cs c hcs hcan hle (by rw [← hm, mod_mod_pow _ _ _ hle, hmk]))
        · exact Nat.ne_of_lt hlt (pf_index ls ctx.hfit k s c cs hcan hcs hle (by rw [← hmk, mod_mod_pow _ _ _ hle, hm]))
      · rw [if_neg hmk]; exact inv.hshort s cs hlt hcs hsl j hj hm
    · rw [hcan] at hcs; injection hcs with hcs; subst hcs
      rw [if_pos hm]
  · intro s cs hsk hcs hsl
    rcases Nat.lt_succ_iff_lt_or_eq.mp hsk with hlt | rfl
    · obtain ⟨root, m, r1, r2⟩ := inv.hlong s cs hlt hcs hsl
      exact ⟨root, m, by rw [hroots, r1], r2⟩
    · exact absurd hsl (Nat.not_lt_of_le hs)
  · intro j hj
    by_cases hmk : j % 2 ^ ls.getD k 0 = reverseBits c (ls.getD k 0)
    · exact Or.inr (Or.inl ⟨k, c, hcan, hs, hmk⟩)
    · rcases inv.hts j hj with h | h | ⟨r, h⟩
      · exact Or.inl (by rw [htab j hj, if_neg hmk, h])
      · exact Or.inr (Or.inl h)
      · exact Or.inr (Or.inr ⟨r, by rw [hroots, h]⟩)

theorem Inv.root (inv : Inv ls L tb k next tree table) {slot : Nat} (hslot : slot < 2 ^ tb) (h0 : table[slot]! = 0)
    (hsz : tree.size + 1 < 65536) :
    Inv ls L tb k next (tree.push .empty) (table.setIfInBounds slot (tree.size + 1)) := by
  have hro := rootOf_set table slot (tree.size + 1) (by rw [inv.hsize]; exact hslot) (Nat.succ_ne_zero _) hsz
  refine { hnsz := inv.hnsz, hnext := inv.hnext, hsize := by rw [Array.size_setIfInBounds, inv.hsize],
           hshort := ?_, hlong := ?_, hts := ?_ }
  · intro s c hsk hc hsl j hj hm
    have hold := inv.hshort s c hsk hc hsl j hj hm
    have hl0 := (canonical_some ls s c hc).2.1
    rw [ArrayWrites.get_set_ne _ _ _ _ (by intro h; subst h; omega), hold]
  · intro s c hsk hc hsl
    obtain ⟨r, m, r1, r2, r3⟩ := inv.hlong s c hsk hc hsl
    refine ⟨r, m, ?_, path_keep (keep_push _) _ _ _ r2, by rw [aget_push_empty, r3]⟩
    rw [hro, if_neg, r1]
    intro h
    rw [h] at r1
    have := (rootOf_some r1).1
    omega
  · intro j hj
    by_cases hjs : j = slot
    · exact Or.inr (Or.inr ⟨_, by rw [hro, if_pos hjs]⟩)
    · rw [ArrayWrites.get_set_ne _ _ _ _ hjs, hro, if_neg hjs]
      exact inv.hts j hj

theorem Inv.leaf (ctx : Ctx ls L tb mask) (hk : k < ls.length) (hlong : tb < ls.getD k 0) (inv : Inv ls L tb k next tree table)
    (c : Nat) (hc : next[ls.getD k 0]! = c) (hcan : canonicalCode ls k = some c) {tree' : Array Node} {root node : Nat}
    (hkeep : Keep tree tree') (hroot : rootOf table (reverseBits c (ls.getD k 0) % 2 ^ tb) = some root)
    (hpath : Path tree' root (msbBits c (ls.getD k 0 - tb)) node) (hleaf : tree'[node]! = .leaf k) :
    Inv ls L tb (k + 1) (next.setIfInBounds (ls.getD k 0) ((c + 1) % 65536)) tree' table := by
  refine { hnsz := by rw [Array.size_setIfInBounds]; exact inv.hnsz, hnext := next_step ctx hk inv c hc hcan,
           hsize := inv.hsize, hshort := ?_, hlong := ?_, hts := inv.hts }
  · intro s cs hsk hcs hsl
    rcases Nat.lt_succ_iff_lt_or_eq.mp hsk with hlt | rfl
    · exact inv.hshort s cs hlt hcs hsl
    · exact absurd hlong (Nat.not_lt_of_le hsl)
  · intro s cs hsk hcs hsl
    rcases Nat.lt_succ_iff_lt_or_eq.mp hsk with hlt | rfl
    · obtain ⟨r, m, r1, r2, r3⟩ := inv.hlong s cs hlt hcs hsl
      exact ⟨r, m, r1, path_keep hkeep _ _ _ r2, by rw [hkeep m (by rw [r3]; exact fun h => by cases h), r3]⟩
    · rw [hcan] at hcs; injection hcs with hcs; subst hcs
      exact ⟨root, node, hroot, hpath, hleaf⟩

end Huff
