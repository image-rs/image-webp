import WebpVerif.Lemmas.EncInv

/-!
The encoder's residual pixels and tokens: tokenisation is lossless, tokens are pixels of the image,
grey / opaque images have constant red-blue / alpha residuals, and the specification's inverse
transforms give back the expanded input.
-/
namespace EncRT
open Enc

theorem takeWhile_eq_replicate (p : List Nat) (l : List (List Nat)) (n : Nat)
    (h : n ≤ (l.takeWhile (· == p)).length) : l.take n = List.replicate n p := by
  induction l generalizing n with
  | nil => simp at h; subst h; rfl
  | cons a l ih =>
    match n with
    | 0 => rfl
    | n + 1 =>
      by_cases ha : (a == p) = true
      · simp only [List.takeWhile_cons, ha, if_true, List.length_cons] at h
        have := ih n (Nat.le_of_succ_le_succ h)
        have hap : a = p := by simpa using ha
        simp [List.take_succ_cons, List.replicate_succ, this, hap]
      · simp [ha] at h

theorem tokens_inv (px : List (List Nat)) : ∀ fuel, px.length ≤ fuel →
    expandToks (tokenize px fuel) = px ∧ (∀ t ∈ tokenize px fuel, t.2 ≤ 4096 ∧ t.1 ∈ px) ∧
    (tokenize px fuel).length ≤ px.length := by
  intro fuel
  induction fuel generalizing px with
  | zero =>
    intro h
    have : px = [] := List.eq_nil_of_length_eq_zero (Nat.le_zero.mp h)
    subst this; simp [tokenize, expandToks]
  | succ fuel ih =>
    intro h
    cases px with
    | nil => simp [tokenize, expandToks]
    | cons p rest =>
      unfold tokenize
      simp only
      generalize hrun : (rest.takeWhile (· == p)).length.min 4096 = run
      have hle : run ≤ (rest.takeWhile (· == p)).length := by rw [← hrun]; exact Nat.min_le_left _ _
      have hlen : run ≤ rest.length := Nat.le_trans hle (List.takeWhile_sublist _).length_le
      obtain ⟨e1, e2, e3⟩ := ih (rest.drop run) (by rw [List.length_drop]; exact Nat.le_trans (Nat.sub_le ..) (Nat.le_of_succ_le_succ h))
      refine ⟨?_, ?_, ?_⟩
      · unfold expandToks
        rw [e1, ← takeWhile_eq_replicate p rest run hle, List.take_append_drop]
      · intro t ht
        simp only [List.mem_cons] at ht
        rcases ht with rfl | ht
        · exact ⟨by simp only; rw [← hrun]; exact Nat.min_le_right _ _, List.mem_cons_self⟩
        · exact ⟨(e2 t ht).1, List.mem_cons_of_mem _ (List.mem_of_mem_drop (e2 t ht).2)⟩
      · rw [List.length_drop] at e3
        exact Nat.succ_le_succ (Nat.le_trans e3 (Nat.sub_le ..))

def bytesPer (color : Nat) : Nat := if color = 0 then 1 else if color = 1 then 2 else if color = 2 then 3 else 4

theorem expand_mem (color : Nat) (data : List Nat) (hd : ∀ b ∈ data, b < 256) (q : List Nat) (hq : q ∈ expand color data) :
    ∃ r g b a, q = [r, g, b, a] ∧ r < 256 ∧ g < 256 ∧ b < 256 ∧ a < 256 ∧ (color < 2 → r = g ∧ b = g) ∧
      (color = 0 ∨ color = 2 → a = 255) := by
  have hget : ∀ k, data.getD k 0 < 256 := by
    intro k
    rw [List.getD_eq_getElem?_getD]
    cases h : data[k]? with
    | none => decide
    | some v => exact hd v (List.mem_of_getElem? h)
  unfold expand at hq
  split at hq <;> obtain ⟨i, hi, rfl⟩ := List.mem_map.mp hq
  · exact ⟨_, _, _, _, rfl, hd i hi, hd i hi, hd i hi, by decide, fun _ => ⟨rfl, rfl⟩, fun _ => rfl⟩
  · exact ⟨_, _, _, _, rfl, hget _, hget _, hget _, hget _, fun _ => ⟨rfl, rfl⟩, fun h => absurd h (by decide)⟩
  · exact ⟨_, _, _, _, rfl, hget _, hget _, hget _, by decide, fun h => absurd h (by decide), fun _ => rfl⟩
  · rename_i h0 h1 h2
    have h0 : color ≠ 0 := h0
    have h1 : color ≠ 1 := h1
    exact ⟨_, _, _, _, rfl, hget _, hget _, hget _, hget _, fun h => by omega, fun h => h.elim (absurd · h0) (absurd · h2)⟩

theorem expand_px (color : Nat) (data : List Nat) (hd : ∀ b ∈ data, b < 256) (q : List Nat) (hq : q ∈ expand color data) : Px q := by
  obtain ⟨r, g, b, a, rfl, hr, hg, hb, ha, _⟩ := expand_mem color data hd q hq
  exact ⟨hr, hg, hb, ha⟩

theorem expand_length (color : Nat) (hc : color ≤ 3) (data : List Nat) (n : Nat) (hlen : data.length = n * bytesPer color) :
    (expand color data).length = n := by
  obtain rfl | rfl | rfl | rfl : color = 0 ∨ color = 1 ∨ color = 2 ∨ color = 3 := by omega
  · rw [show bytesPer 0 = 1 from rfl, Nat.mul_one] at hlen
    rw [← hlen]; exact List.length_map _
  all_goals
    simp only [expand, List.length_map, List.length_range, hlen]
    exact Nat.mul_div_cancel _ (by decide)

theorem residAt_px (w : Nat) (px : Array (List Nat)) (i : Nat) (h : Px px[i]!) : Px (residAt w px i) := by
  unfold residAt
  simp only
  split
  · rw [range4_map]; exact ⟨sub8_lt, sub8_lt, sub8_lt, sub8_lt⟩
  · split
    · rw [range4_map]; exact ⟨sub8_lt, sub8_lt, sub8_lt, sub8_lt⟩
    · exact ⟨h.1, h.2.1, h.2.2.1, sub8_lt⟩

/-- a channel with the same value `k` in every pixel has residual 0, if `k` is also what the
    first pixel is predicted from (255 for alpha, 0 for the colours) -/
theorem residAt_const (w : Nat) (px : Array (List Nat)) (i c k : Nat) (hi : i < px.size) (hc : c < 4) (hk : k = if c = 3 then 255 else 0)
    (h : ∀ j : Nat, j < px.size → (px[j]!).getD c 0 = k) : (residAt w px i).getD c 0 = 0 := by
  have e : sub8 k k = 0 := by rw [hk]; split <;> rfl
  have hmap : ∀ f : Nat → Nat, ((List.range 4).map f).getD c 0 = f c := fun f => by
    rw [List.getD_eq_getElem?_getD, List.getElem?_map, List.getElem?_range hc]; rfl
  unfold residAt
  simp only
  split
  · rw [hmap, h i hi, h (i - w) (Nat.sub_lt_of_lt hi), e]
  · split
    · rw [hmap, h i hi, h (i - 1) (Nat.sub_lt_of_lt hi), e]
    · obtain rfl | rfl | rfl | rfl : c = 0 ∨ c = 1 ∨ c = 2 ∨ c = 3 := by omega
      all_goals simp only [getD4, h i hi, hk]; rfl

theorem getElem!_toArray_map (l : List (List Nat)) (f : List Nat → List Nat) (j : Nat) (hj : j < l.length) :
    ((l.map f).toArray)[j]! = f l[j] := by
  rw [Array.getElem!_eq_getD, Array.getD_eq_getD_getElem?, List.getElem?_toArray, List.getElem?_map, List.getElem?_eq_getElem hj]
  rfl

theorem residuals_mem (data : List Nat) (w color : Nat) (pred : Bool) (p : List Nat) (hp : p ∈ residuals data w color pred) :
    if pred then ∃ i, i < ((expand color data).map subGreen).toArray.size ∧ p = residAt w ((expand color data).map subGreen).toArray i
    else ∃ q ∈ expand color data, p = subGreen q := by
  unfold residuals at hp
  cases pred
  · obtain ⟨q, hq, rfl⟩ := List.mem_map.mp hp
    exact ⟨q, hq, rfl⟩
  · rw [if_pos rfl, predictForward_toList] at hp
    obtain ⟨i, hi, rfl⟩ := List.mem_map.mp hp
    exact ⟨i, List.mem_range.mp hi, rfl⟩

theorem residuals_px (data : List Nat) (w color : Nat) (pred : Bool) (hd : ∀ b ∈ data, b < 256) :
    (∀ p ∈ residuals data w color pred, Px p) ∧ (residuals data w color pred).length = (expand color data).length := by
  refine ⟨fun p hp => ?_, ?_⟩
  · have := residuals_mem data w color pred p hp
    cases pred
    · obtain ⟨q, hq, rfl⟩ := this
      exact subGreen_px q (expand_px color data hd q hq)
    · obtain ⟨i, hi, rfl⟩ := this
      apply residAt_px
      rw [getElem!_toArray_map _ _ i (by simpa using hi)]
      exact subGreen_px _ (expand_px color data hd _ (List.getElem_mem _))
  · unfold residuals
    cases pred
    · exact List.length_map _
    · rw [if_pos rfl, predictForward_toList]; simp

theorem residuals_chan (data : List Nat) (w color : Nat) (pred : Bool) (c k : Nat) (hc : c < 4) (hk : k = if c = 3 then 255 else 0)
    (h : ∀ q ∈ expand color data, (subGreen q).getD c 0 = k) :
    ∀ p ∈ residuals data w color pred, p.getD c 0 = if pred then 0 else k := by
  intro p hp
  have := residuals_mem data w color pred p hp
  cases pred
  · obtain ⟨q, hq, rfl⟩ := this
    exact h q hq
  · obtain ⟨i, hi, rfl⟩ := this
    refine residAt_const w _ i c k hi hc hk fun j hj => ?_
    rw [getElem!_toArray_map _ _ j (by simpa using hj)]
    exact h _ (List.getElem_mem _)

theorem residuals_grey (data : List Nat) (w color : Nat) (pred : Bool) (hd : ∀ b ∈ data, b < 256) (hc : color < 2) :
    ∀ p ∈ residuals data w color pred, p.getD 0 0 = 0 ∧ p.getD 2 0 = 0 := by
  have hsg : ∀ q ∈ expand color data, (subGreen q).getD 0 0 = 0 ∧ (subGreen q).getD 2 0 = 0 := by
    intro q hq
    obtain ⟨r, g, b, a, rfl, _, hg, _, _, hgrey, _⟩ := expand_mem color data hd q hq
    obtain ⟨e1, e2⟩ := hgrey hc
    have : sub8 g g = 0 := by unfold sub8; rw [Nat.mod_eq_of_lt hg, Nat.add_sub_cancel_left]
    rw [e1, e2]
    exact ⟨this, this⟩
  intro p hp
  have h0 := residuals_chan data w color pred 0 0 (by decide) rfl (fun q hq => (hsg q hq).1) p hp
  have h2 := residuals_chan data w color pred 2 0 (by decide) rfl (fun q hq => (hsg q hq).2) p hp
  rw [ite_self] at h0 h2
  exact ⟨h0, h2⟩

theorem residuals_opaque (data : List Nat) (w color : Nat) (pred : Bool) (hd : ∀ b ∈ data, b < 256) (hc : color = 0 ∨ color = 2) :
    ∀ p ∈ residuals data w color pred, p.getD 3 0 = if pred then 0 else 255 :=
  residuals_chan data w color pred 3 255 (by decide) rfl fun q hq => by
    obtain ⟨r, g, b, a, rfl, _, _, _, _, _, ha⟩ := expand_mem color data hd q hq
    exact ha hc

theorem invSubGreen_list : ∀ l : List (List Nat), (∀ q ∈ l, Px q) → ((l.map subGreen).map pack).map VP8LP.invSubGreenPx = l.map pack := by
  intro l
  induction l with
  | nil => intro _; rfl
  | cons q l ih =>
    intro hl
    rw [List.map_cons, List.map_cons, List.map_cons, List.map_cons, invSubGreen_pack q (hl q List.mem_cons_self),
      ih (fun q' hq' => hl q' (List.mem_cons_of_mem _ hq'))]

theorem applyT_enc (data : List Nat) (w h color : Nat) (pred : Bool) (hw : 0 < w) (hd : ∀ b ∈ data, b < 256)
    (hlen : (expand color data).length = w * h) :
    VP8LP.applyT w h (encTs w h pred) w ((residuals data w color pred).map pack) = (expand color data).map pack := by
  unfold residuals encTs
  cases pred
  · simp only [VP8LP.applyT, Bool.false_eq_true, if_false]
    exact invSubGreen_list _ (expand_px color data hd)
  · simp only [VP8LP.applyT, if_true]
    rw [predictForward_toList, List.map_map]
    have hget : ∀ j (hj : j < (expand color data).length),
        (((expand color data).map subGreen).toArray)[j]! = subGreen (expand color data)[j] := getElem!_toArray_map _ _
    have hp := invPredictor_enc w h hw ((expand color data).map subGreen).toArray (by simpa using hlen)
      (fun j hj => by
        rw [hget j (by simpa using hj)]
        exact subGreen_px _ (expand_px color data hd _ (List.getElem_mem _)))
      (((expand color data).map subGreen).toArray).size 0 (Nat.zero_add _)
    rw [show revPacks _ 0 = [] from rfl, ← List.range_eq_range'] at hp
    rw [show (pack ∘ residAt w ((expand color data).map subGreen).toArray) = fun j => pack (residAt w _ j) from rfl, hp]
    have : (List.range ((expand color data).map subGreen).toArray.size).map (fun j => pack ((expand color data).map subGreen).toArray[j]!) =
        ((expand color data).map subGreen).map pack := by
      apply List.ext_getElem (by simp)
      intro i h1 h2
      simp only [List.getElem_map, List.getElem_range]
      rw [hget i (by simpa using h2)]
    rw [this]
    exact invSubGreen_list _ (expand_px color data hd)

end EncRT
