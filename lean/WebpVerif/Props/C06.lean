import WebpVerif.Lemmas.Anim
import WebpVerif.Props.C12

/-!
# C06 — animation frames follow the container's canvas compositing model

`Anim` models `composite_frame` and the `read_frame` state machine; `Canvas` is the
specification: a per-pixel fold over the frame history (`canvasPx`), parametric in the blend
function.  The theorems below instantiate it with the blend function the code uses
(`Blend.blendPixel`); the property's clauses about the blend itself are C12's, and the one that
fails there (opaque source, known finding) is restated here as `opaque_replaces_full` /
`opaque_replaces_false`.
-/
namespace C06
open Anim Canvas Blend

/-- a valid animation as `read_frame` accepts it -/
def Valid (f : File) : Prop := 0 < f.cw ∧ ∀ g ∈ f.frames, FrameOk f g

/-- one compositing step equals the specification per pixel; no index out of bounds;
    only the previous rectangle is restored (all canvas sizes, rectangles, flags, contents) -/
theorem composite_eq_spec (canvas : Array Px) (cw ch : Nat) (clear : Option Px)
    (frame : Array Px) (fr : Rect) (hasAlpha useBlend : Bool) (prev : Rect)
    (hfr : fr.inside cw ch = true) (hprev : prev.inside cw ch = true)
    (hc : canvas.size = cw * ch) (hf : frame.size = fr.w * fr.h) :
    ∃ c', compositeFrame canvas cw ch clear frame fr hasAlpha useBlend prev = some c' ∧
      c'.size = cw * ch ∧
      ∀ x y, x < cw → y < ch →
        c'[y * cw + x]? = some (stepPx blendPixel (clear.getD ⟨0, 0, 0, 0⟩) clear.isSome prev
          (asFrame frame fr hasAlpha useBlend) (canvas.getD (y * cw + x) ⟨0, 0, 0, 0⟩) x y) :=
  compositeFrame_shows canvas cw ch clear frame fr hasAlpha useBlend prev hfr hprev hf (shows_getD hc)

/-- state after `k` `read_frame` calls on a fresh decoder -/
def after (f : File) : Nat → State
  | 0 => State.default
  | k + 1 => (readFrame f (after f k)).2

/-- **The k-th successful `read_frame` returns the canvas fold and that frame's duration**, for
    every valid animation and every k — by induction over the frame history. -/
theorem read_frame_fold (f : File) (hv : Valid f) (k : Nat) (fr : Frame) (hfr : f.frames[k]? = some fr) :
    StateAt f k (after f k) ∧
    (readFrame f (after f k)).1 = .frame fr.duration (frameBuf blendPixel f (k + 1)) := by
  have hstate : ∀ j, j ≤ k → StateAt f j (after f j) := by
    intro j
    induction j with
    | zero => exact fun _ => stateAt_default f
    | succ j ih =>
      intro hj
      have hlt : j < f.frames.length := by
        have := (List.getElem?_eq_some_iff.mp hfr).1
        omega
      exact (readFrame_out f hv.1 hv.2 j _ _ (ih (by omega)) (List.getElem?_eq_getElem hlt)).2
  exact ⟨hstate k (Nat.le_refl k), (readFrame_out f hv.1 hv.2 k _ fr (hstate k (Nat.le_refl k)) hfr).1⟩

/-- after the last frame `read_frame` reports `NoMoreFrames` and changes nothing -/
theorem no_more_frames (f : File) (st : State) (h : st.nextFrame ≥ f.frames.length) :
    readFrame f st = (.noMoreFrames, st) := by
  unfold readFrame; rw [if_pos h]

/-- the background colour is read in the container's Blue, Green, Red, Alpha order -/
theorem bg_order (f : File) (b g r a : Nat) (h : f.bgFile = [b, g, r, a]) : f.bg = ⟨r, g, b, a⟩ := by
  unfold File.bg; rw [h]; rfl

/-- fully transparent source pixels leave the canvas pixel unchanged (with the code's blend) -/
theorem transparent_leaves (src dst : Px) (h : src.a = 0) : blendPixel src dst = dst :=
  C12.blend_transparent src dst h

/-- a frame without alpha is drawn opaque, by overwrite, whatever its blend flag says -/
theorem opaque_frame_overwrites (bg : Px) (d : Bool) (prev : Rect) (fr : Frame) (old : Px) (x y : Nat)
    (hna : fr.hasAlpha = false) (hin : inRect fr.rect x y = true) :
    stepPx blendPixel bg d prev fr old x y =
      { (fr.pixels.getD ((y - fr.rect.y) * fr.rect.w + (x - fr.rect.x)) ⟨0, 0, 0, 0⟩) with a := 255 } := by
  unfold stepPx framePx; simp [hna, hin]

/-- "Opaque source pixels replace the canvas pixel exactly", for the code's blend function.
    FALSE of the pinned tree (known finding KF-C06-opaque-blend = KF-C12-opaque). -/
def opaque_replaces_full : Prop := ∀ src dst : Px, src.r < 256 → src.g < 256 → src.b < 256 → src.a = 255 → blendPixel src dst = src

theorem opaque_replaces_false : ¬ opaque_replaces_full := fun h =>
  C12.opaque_full_false fun src dst hs _ ha => h src dst hs.1 hs.2.1 hs.2.2.1 ha

/-- with the repaired blend function the clause holds (and by `C12.fixed_eq_off_opaque` that function
    differs from the code's only for an opaque source) -/
theorem opaque_replaces_fixed (src dst : Px) (h : src.a = 255) : blendPixelFixed src dst = src :=
  C12.blend_opaque_fixed src dst h

-- non-vacuity: a concrete valid animation (the first frame blended onto the background and disposed,
-- the second a full-canvas overwrite without alpha)
def demo : File :=
  { cw := 2, ch := 2, bgFile := [1, 2, 3, 4], hasAlpha := true,
    frames := [
      { rect := ⟨0, 0, 1, 1⟩, duration := 100, useBlend := true, dispose := true, hasAlpha := true,
        pixels := #[⟨255, 238, 221, 204⟩] },
      { rect := ⟨0, 0, 2, 2⟩, duration := 50, useBlend := false, dispose := false, hasAlpha := false,
        pixels := #[⟨1, 2, 3, 255⟩, ⟨4, 5, 6, 255⟩, ⟨7, 8, 9, 255⟩, ⟨16, 17, 18, 255⟩] }] }

example : Valid demo := by
  refine ⟨by decide, ?_⟩
  intro g hg
  simp only [demo, List.mem_cons, List.not_mem_nil, or_false] at hg
  rcases hg with rfl | rfl <;> exact ⟨by decide, by decide, by decide, by decide⟩

example : (run demo State.default [.readFrame, .readFrame, .readFrame]).length = 3 := by decide

end C06
