import WebpVerif.Lemmas.Yuv
import WebpVerif.Gen.Tables

/-!
# C13 — YUV→RGB conversion equals libwebp's for every sample triple

`YuvSpec` is libwebp's `yuv.h` arithmetic with constants regenerated from that header on every
run; `Yuv` is the model of the crate's writers; `Gen.Tables.YUV_*` are the literals re-extracted
from `/repo/src/vp8.rs` on every run.
-/
namespace C13
open Yuv

/-- the literals extracted from the two Rust writers on every run are these numerals (the ones
    `Yuv.r`, `Yuv.g`, `Yuv.b` and `Yuv.clip` are written with), the same in both writers -/
theorem consts_from_code :
    Gen.Tables.YUV_FILL_RGB_ROW_MULHI_Y = [19077] ∧ Gen.Tables.YUV_FILL_RGB_ROW_MULHI_U = [33050, 6419] ∧
    Gen.Tables.YUV_FILL_RGB_ROW_MULHI_V = [13320, 26149] ∧ Gen.Tables.YUV_FILL_RGB_ROW_OFFSETS = [8708, -14234, -17685] ∧
    Gen.Tables.YUV_FILL_RGBA_ROW_MULHI_Y = [19077] ∧ Gen.Tables.YUV_FILL_RGBA_ROW_MULHI_U = [33050, 6419] ∧
    Gen.Tables.YUV_FILL_RGBA_ROW_MULHI_V = [13320, 26149] ∧ Gen.Tables.YUV_FILL_RGBA_ROW_OFFSETS = [8708, -14234, -17685] ∧
    Gen.Tables.YUV_FIX2 = 6 := by decide

/-- kernel: for EVERY (Y, U, V) — not only bytes — each colour equals libwebp's -/
theorem rgb_kernel (c y u v : Nat) : (rgb c y u v : Int) = YuvSpec.rgb c y u v := by
  unfold rgb YuvSpec.rgb
  split
  · exact r_eq y v
  · split
    · exact g_eq y u v
    · exact b_eq y u

theorem rgb_byte (c y u v : Nat) : rgb c y u v < 256 := by
  have h : ∀ z : Int, clip z < 256 := by intro z; unfold clip; omega
  unfold rgb r g b; split
  · exact h _
  · split <;> exact h _

/-- three-channel row writer: pixel `x` (first of a pair, second of a pair, or the odd tail)
    gets the kernel of luma `x` and chroma `x/2`; the row keeps its length -/
theorem row_rgb (ys us vs out : List Nat) (hlen : out.length = 3 * ys.length)
    (hu : (ys.length + 1) / 2 ≤ us.length) (hv : (ys.length + 1) / 2 ≤ vs.length) :
    (fillRgbRow ys us vs out).length = out.length ∧
    ∀ x c, x < ys.length → c < 3 →
      (fillRgbRow ys us vs out)[3 * x + c]? =
        some (rgb c (ys.getD x 0) (us.getD (x / 2) 0) (vs.getD (x / 2) 0)) :=
  ⟨fillRgbRow_length .., fun x c hx hc =>
    (rgbRow.get ys us vs out hlen hu hv x c hx hc).trans (if_pos hc)⟩

/-- four-channel row writer: same colours, and the alpha byte is left as found -/
theorem row_rgba (ys us vs out : List Nat) (hlen : out.length = 4 * ys.length)
    (hu : (ys.length + 1) / 2 ≤ us.length) (hv : (ys.length + 1) / 2 ≤ vs.length) :
    (fillRgbaRow ys us vs out).length = out.length ∧
    ∀ x, x < ys.length →
      (∀ c, c < 3 → (fillRgbaRow ys us vs out)[4 * x + c]? =
        some (rgb c (ys.getD x 0) (us.getD (x / 2) 0) (vs.getD (x / 2) 0))) ∧
      (fillRgbaRow ys us vs out)[4 * x + 3]? = out[4 * x + 3]? :=
  ⟨fillRgbaRow_length .., fun x hx =>
    ⟨fun c hc => (rgbaRow.get ys us vs out hlen hu hv x c hx (by omega)).trans (if_pos hc),
      rgbaRow.get ys us vs out hlen hu hv x 3 hx (by decide)⟩⟩

/-- `fill_rgb`: pixel (x, y) of the output is the kernel of luma (x, y) and chroma (x/2, y/2),
    for every width and height (any parity, 1-pixel rows/columns included) -/
theorem frame_rgb (w h : Nat) (ybuf ubuf vbuf buf : List Nat)
    (hyl : ybuf.length = w * h) (hul : ubuf.length = ((w + 1) / 2) * ((h + 1) / 2))
    (hvl : vbuf.length = ((w + 1) / 2) * ((h + 1) / 2)) (hbl : buf.length = 3 * w * h)
    (x y c : Nat) (hx : x < w) (hy : y < h) (hc : c < 3) :
    (fillRgb w ybuf ubuf vbuf buf)[(y * w + x) * 3 + c]? =
      some (rgb c (ybuf.getD (y * w + x) 0) (ubuf.getD (((w + 1) / 2) * (y / 2) + x / 2) 0)
        (vbuf.getD (((w + 1) / 2) * (y / 2) + x / 2) 0)) := by
  unfold fillRgb
  rw [hbl, Nat.mul_div_cancel_left h (by omega : 0 < 3 * w)]
  exact (rgbRow.frame_get w h ybuf ubuf vbuf buf hyl hul hvl hbl x y c hx hy hc).trans (if_pos hc)

/-- `fill_rgba`: same colours; the alpha byte of every pixel is whatever the buffer held -/
theorem frame_rgba (w h : Nat) (ybuf ubuf vbuf buf : List Nat)
    (hyl : ybuf.length = w * h) (hul : ubuf.length = ((w + 1) / 2) * ((h + 1) / 2))
    (hvl : vbuf.length = ((w + 1) / 2) * ((h + 1) / 2)) (hbl : buf.length = 4 * w * h)
    (x y c : Nat) (hx : x < w) (hy : y < h) (hc : c < 4) :
    (fillRgba w ybuf ubuf vbuf buf)[(y * w + x) * 4 + c]? =
      if c = 3 then buf[(y * w + x) * 4 + 3]?
      else some (rgb c (ybuf.getD (y * w + x) 0) (ubuf.getD (((w + 1) / 2) * (y / 2) + x / 2) 0)
        (vbuf.getD (((w + 1) / 2) * (y / 2) + x / 2) 0)) := by
  unfold fillRgba
  rw [hbl, Nat.mul_div_cancel_left h (by omega : 0 < 4 * w),
    rgbaRow.frame_get w h ybuf ubuf vbuf buf hyl hul hvl hbl x y c hx hy hc]
  by_cases h3 : c = 3
  · subst h3; rfl
  · rw [if_pos (by omega), if_neg h3]

-- non-vacuity: a 3×3 frame (odd width and height, so pair / pair-second / tail all occur)
example : fillRgb 3 [16, 128, 235, 81, 145, 41, 210, 170, 106] [90, 240, 54, 34] [240, 110, 34, 128]
    (List.replicate 27 7) =
    [179, 0, 0, 255, 54, 54, 226, 226, 255, 254, 0, 0, 255, 74, 74, 0, 0, 255, 76, 255, 77, 29, 255, 30, 105, 142, 0] := by
  decide +kernel
example : (fillRgba 2 [81, 145] [90] [240] [1, 2, 3, 4, 5, 6, 7, 8]) = [254, 0, 0, 4, 255, 74, 74, 8] := by decide

end C13
