import WebpVerif.Model.Vp8Kernels
import WebpVerif.Spec.LoopFilter
import WebpVerif.Gen.Libwebp
import WebpVerif.Lemmas.Vp8Ctx
import WebpVerif.Lemmas.Vp8Mode
import WebpVerif.Lemmas.Vp8Border
import WebpVerif.Lemmas.Vp8Pred
import WebpVerif.Lemmas.Vp8Coef
import WebpVerif.Lemmas.Vp8Tok
import WebpVerif.Model.Vp8Quant
import WebpVerif.Spec.Vp8QuantSpec
import WebpVerif.Lemmas.Vp8LF
import WebpVerif.Lemmas.Vp8Intra
import WebpVerif.Lemmas.Vp8Frame

/-!
# C02 — VP8 key-frame reconstruction is bit-exact

The whole-frame statement is decided by execution on every run (libwebp-encoded and synthetic
random-symbol key frames, planes compared with libwebp sample for sample).  This file proves,
for ALL arguments, what the frame comparison can only sample: the parts of the decoder, each
modelled on its own and tied to the real function through a hook, against RFC 6386 or the
transcription of libwebp's code - tables and quantisers, loop filter (kernels, parameters, order
of the edges), contexts and prediction borders, predictors, residue addition, token decoding.
-/
namespace C02
open Vp8K

theorem coeff_tables_eq :
    Gen.Tables.COEFF_PROBS = Gen.Libwebp.CoeffsProba0 ∧
    Gen.Tables.COEFF_UPDATE_PROBS = Gen.Libwebp.CoeffsUpdateProba := by
  refine ⟨?_, ?_⟩ <;> decide +kernel

theorem small_tables_eq :
    Gen.Tables.DC_QUANT = Gen.Libwebp.kDcTable ∧ Gen.Tables.AC_QUANT = Gen.Libwebp.kAcTable ∧
    Gen.Tables.ZIGZAG = Gen.Libwebp.kZigzag ∧ Gen.Tables.COEFF_BANDS = Gen.Libwebp.kBands.take 16 ∧
    Gen.Tables.PROB_DCT_CAT.map (fun r => r.takeWhile (· ≠ 0)) =
      [Gen.Libwebp.kCat1, Gen.Libwebp.kCat2, Gen.Libwebp.kCat3, Gen.Libwebp.kCat4, Gen.Libwebp.kCat5,
        Gen.Libwebp.kCat6].map (fun r => r.takeWhile (· ≠ 0)) ∧
    Gen.Tables.DCT_CAT_BASE = [5, 7, 3 + 8 * 2 ^ 0, 3 + 8 * 2 ^ 1, 3 + 8 * 2 ^ 2, 3 + 8 * 2 ^ 3] ∧
    Gen.Tables.CONST1 = Gen.Libwebp.kC1minus65536 ∧ Gen.Tables.CONST2 = Gen.Libwebp.kC2 := by
  decide +kernel

/-- quantiser set-up: the code's `ac * 155 / 100` floored at 8 is the reference
    `(ac * 101581) >> 16` floored at 8, and capping the chroma DC factor at 132 is the reference
    index clip at 117 - for every one of the 128 indices -/
theorem quant_rules_eq : ∀ i < 128,
    max Gen.Tables.Y2AC_MIN (Gen.Tables.AC_QUANT.getD i 0 * Gen.Tables.Y2AC_NUM / Gen.Tables.Y2AC_DEN) =
      max 8 ((Gen.Libwebp.kAcTable.getD i 0 * Gen.Libwebp.y2acMul) >>> Gen.Libwebp.y2acShift) ∧
    min (Gen.Tables.DC_QUANT.getD i 0) Gen.Tables.UVDC_MAX =
      Gen.Libwebp.kDcTable.getD (min i Gen.Libwebp.uvdcClip) 0 ∧
    Gen.Tables.Y2DC_MUL = 2 := by
  decide +kernel

theorem clamp127_clip (v : Int) : Vp8Quant.clamp127 v = Vp8QuantSpec.clip v 127 ∧ Vp8Quant.clamp127 v < 128 := by
  have h : Vp8Quant.clamp127 v = Vp8QuantSpec.clip v 127 := Vp8PredProof.toNat_clamp v 127
  refine ⟨h, ?_⟩
  rw [h]; unfold Vp8QuantSpec.clip; split <;> (try split) <;> omega

theorem clip117 (v : Int) : Vp8QuantSpec.clip v Gen.Libwebp.uvdcClip = min (Vp8Quant.clamp127 v) Gen.Libwebp.uvdcClip := by
  rw [(clamp127_clip v).1]
  show Vp8QuantSpec.clip v 117 = min (Vp8QuantSpec.clip v 127) 117
  unfold Vp8QuantSpec.clip; (repeat' split) <;> omega

/-- **the dequantisation factors are the reference's.** For every header state (segments on or
    off, delta or absolute levels), every level, base index and delta - no range hypothesis at
    all - the six factors `read_quantization_indices` stores are the six matrix entries
    libwebp's `VP8ParseQuant` computes. -/
theorem quant_factors_are_reference (se dv : Bool) (level : Int) (yacAbs : Nat) (ydc y2dc y2ac uvdc uvac : Int) :
    Vp8Quant.factors se dv level yacAbs ydc y2dc y2ac uvdc uvac =
      Vp8QuantSpec.matrices se (!dv) level yacAbs ydc y2dc y2ac uvdc uvac := by
  have floor : ∀ a m : Nat, (if a < m then m else a) = max m a := fun a m => by
    rw [Nat.max_def]; split <;> split <;> omega
  have cap : ∀ a m : Nat, (if a > m then m else a) = min a m := fun a m => by
    rw [Nat.min_def]; split <;> split <;> omega
  have hb : Vp8Quant.baseIndex se dv level yacAbs = Vp8QuantSpec.q se (!dv) level yacAbs := by
    unfold Vp8Quant.baseIndex Vp8QuantSpec.q; rw [Bool.not_not]
  unfold Vp8Quant.factors Vp8QuantSpec.matrices Vp8Quant.dcQuant Vp8Quant.acQuant
  dsimp only
  rw [hb, floor, floor, cap]
  generalize Vp8QuantSpec.q se (!dv) level yacAbs = q
  -- the floor and the cap by the table rules, then the same tables at the same clipped indices
  rw [(quant_rules_eq _ (clamp127_clip (q + y2ac)).2).1, (quant_rules_eq _ (clamp127_clip (q + uvdc)).2).2.1,
    small_tables_eq.1, small_tables_eq.2.1, ← clip117, Int.add_zero]
  simp only [(clamp127_clip _).1]
  rfl

/-- non-vacuity / sanity: segment with delta level -3 on base index 40, deltas 2 -15 15 -7 0 -/
example : Vp8Quant.factors true true (-3) 40 2 (-15) 15 (-7) 0 = [36, 41, 44, 86, 27, 41] := by decide +kernel
/-- the y2ac floor and the uvdc cap are both reachable -/
example : Vp8Quant.factors false false 0 0 0 0 0 0 0 = [4, 4, 8, 8, 4, 4] ∧
    Vp8Quant.factors false false 0 127 0 0 0 0 0 = [157, 284, 314, 440, 132, 284] := by decide +kernel

/-- **the loop-filter driver visits the edges as the reference decoder does.** `Vp8LF.filterMb`
    models one call of `Vp8Decoder::loop_filter` (tied to the real function over whole frames
    through hook 73798e6: every display-size residue mod 16, both filter types, every sharpness,
    levels 1..63, random B_PRED / coefficient flags; displayed samples compared): for every filter
    type, level, interior limit, hev threshold, inner-edge flag, plane strides, macroblock position
    and plane contents it equals `LibwebpLF.doFilter`, the transcription of libwebp's `DoFilter`
    with the loops of `dsp/dec.c` in libwebp's own pointer arithmetic (left macroblock edge unless
    in column 0, three inner vertical luma edges and one chroma edge, top macroblock edge unless in
    row 0, inner horizontal edges; 16 / 8 positions per edge; `limit + 4` on macroblock edges; luma
    only for the simple filter). -/
theorem filter_driver_is_reference (isSimple : Bool) (level il hev : Nat) (inner : Bool) (W CW mbx mby : Nat) (p : Vp8LF.Planes) :
    Vp8LF.filterMb isSimple level il hev inner W CW mbx mby p = LibwebpLF.doFilter isSimple level il hev inner W CW mbx mby p :=
  Vp8LFProof.filterMb_is_doFilter isSimple level il hev inner W CW mbx mby p

/-- the whole frame: macroblocks in raster order, each filtered as the reference decoder's
    `DoFilter` does with the parameters of `Vp8K.filterParams` (`level_eq_rfc`, `interior_eq_rfc`) -/
theorem filter_frame_is_reference (isSimple : Bool) (sharp frameLevel mbw mbh : Nat) (mbs : Nat → Bool × Bool) (p : Vp8LF.Planes) :
    Vp8LF.filterFrame isSimple sharp frameLevel mbw mbh mbs p =
      (List.range (mbw * mbh)).foldl (fun p k =>
        LibwebpLF.doFilter isSimple (Vp8K.filterParams frameLevel sharp false false 0 0 0 (mbs k).1).1
          (Vp8K.filterParams frameLevel sharp false false 0 0 0 (mbs k).1).2.1 (Vp8K.filterParams frameLevel sharp false false 0 0 0 (mbs k).1).2.2
          ((mbs k).1 || (mbs k).2) (mbw * 16) (mbw * 8) (k % mbw) (k / mbw) p) p := by
  unfold Vp8LF.filterFrame
  simp only [Vp8LFProof.filterMb_is_doFilter]

/-- **plane sizes of every accepted key frame.**  `Vp8Frame.decode` is the complete model of the
    key-frame decoder (compared with the real decoder on whole frames in every run): whenever it
    accepts a frame, the luma plane has `w x h` samples and both chroma planes
    `ceil(w/2) x ceil(h/2)`, with `w`, `h` the 14-bit size fields of the frame header - for every
    byte string. -/
theorem frame_plane_sizes (frame : List Nat) (w h : Nat) (y u v : List Nat) (hd : Vp8Frame.decode frame = some (w, h, y, u, v)) :
    w = (frame.getD 6 0 + 256 * frame.getD 7 0) % 16384 ∧ h = (frame.getD 8 0 + 256 * frame.getD 9 0) % 16384 ∧
    y.length = w * h ∧ u.length = ((w + 1) / 2) * ((h + 1) / 2) ∧ v.length = ((w + 1) / 2) * ((h + 1) / 2) :=
  Vp8FrameProof.plane_sizes frame w h y u v hd

/-- the macroblock loop of the whole-frame model records exactly `rows x mbw` macroblocks (so the
    loop-filter stage, which looks macroblock `k` up in that list for every `k < mbw * mbh`, finds
    an entry) -/
theorem frame_visits_every_macroblock (h : Vp8Header.Hdr) (tp : Array Nat) (mbw nparts rows mby : Nat) (s s' : Vp8Frame.St)
    (e : Vp8Frame.frameLoop h tp mbw nparts rows mby s = some s') : s'.mbs.size = s.mbs.size + rows * mbw :=
  Vp8FrameProof.frameLoop_size h tp mbw nparts rows mby s s' e

/-- **`add_residue` is `clamp(prediction + residue)`.** For every workspace, residue block (any
    integers), block position and stride that leaves room for the block: each of the sixteen
    samples of the block becomes the sum of the predicted sample and its residue clamped to 0..255
    (RFC 6386 section 14.5), and every other sample of the workspace - borders, other blocks - is
    left as it was.  `Vp8Intra.addResidue` is the model of `add_residue` inside `Vp8Intra.predictMb`,
    tied to `intra_predict_luma` / `intra_predict_chroma` through hook 0765b56. -/
theorem add_residue_is_clamp (ws : Array Nat) (rb : Array Int) (y0 x0 stride : Nat) (hs : x0 + 4 ≤ stride) :
    (Vp8Intra.addResidue ws rb y0 x0 stride).size = ws.size ∧
    (∀ k, k < 16 → Vp8IntraProof.cell y0 x0 stride k < ws.size →
      ((Vp8Intra.addResidue ws rb y0 x0 stride).getD (Vp8IntraProof.cell y0 x0 stride k) 0 : Int) =
        (let v := rb.getD k 0 + (ws.getD (Vp8IntraProof.cell y0 x0 stride k) 0 : Int); if v < 0 then 0 else if v > 255 then 255 else v)) ∧
    (∀ q, (∀ k, k < 16 → Vp8IntraProof.cell y0 x0 stride k ≠ q) → (Vp8Intra.addResidue ws rb y0 x0 stride).getD q 0 = ws.getD q 0) := by
  obtain ⟨h1, h2, h3⟩ := Vp8IntraProof.addResidue_spec ws rb y0 x0 stride hs
  refine ⟨h1, ?_, h3⟩
  intro k hk hlt
  rw [h2 k hk hlt]
  exact Vp8IntraProof.clampByte_spec _

/-- **a 16x16-predicted luma macroblock is `clamp(prediction + residue)` sample by sample.**  For
    every workspace with its border, every 16x16 mode (DC with either availability, V, H, TM), every
    residue (any 384 integers) and every sample (r, c) of the macroblock: what `intra_predict_luma`
    leaves in the workspace (model `Vp8Intra.lumaRecon`, tied through hook 0765b56) is the predicted
    sample - the reference predictor's, by `vertical_horizontal_are_reference` / `truemotion_is_reference`
    / `dc_is_reference` - plus the residue of the sample's 4x4 block at its raster position, clamped
    to 0..255: the sixteen `add_residue` calls neither miss nor touch twice any sample. -/
theorem luma16_is_prediction_plus_residue (mbx mby lumaMode : Nat) (hm : lumaMode ≠ 4) (bmodes : Array Nat) (res : Array Int) (ws : Array Nat)
    (hres : res.size = 384) (hws : ws.size = 357) (r c : Nat) (hr : r < 16) (hc : c < 16) :
    (Vp8Intra.lumaRecon mbx mby lumaMode bmodes res ws).getD (Vp8IntraProof.at16 r c) 0 =
      Vp8Intra.clampByte (res.getD (16 * ((r / 4) * 4 + c / 4) + 4 * (r % 4) + c % 4) 0 +
        ((match lumaMode with
          | 1 => Vp8Pred.predict 10 ws 16 1 1 21 true true
          | 2 => Vp8Pred.predict 11 ws 16 1 1 21 true true
          | 3 => Vp8Pred.predict 1 ws 16 1 1 21 true true
          | _ => Vp8Pred.predict 12 ws 16 1 1 21 (mby != 0) (mbx != 0)).getD (Vp8IntraProof.at16 r c) 0 : Nat)) :=
  Vp8IntraProof.luma16_recon mbx mby lumaMode hm bmodes res ws hres hws r c hr hc

/-- **the chroma planes likewise**: every sample of the 8x8 U (first block 16) and V (first block 20)
    part of a macroblock is the predicted sample plus the residue of its 4x4 block, clamped, for
    every workspace, chroma mode and residue (model `Vp8Intra.chromaRecon`, tied through hook 0765b56). -/
theorem chroma_is_prediction_plus_residue (mbx mby chromaMode first : Nat) (hf : first ≤ 20) (res : Array Int) (ws : Array Nat)
    (hres : res.size = 384) (hws : ws.size = 81) (r c : Nat) (hr : r < 8) (hc : c < 8) :
    (Vp8Intra.chromaRecon mbx mby chromaMode first res ws).getD (Vp8IntraProof.at8 r c) 0 =
      Vp8Intra.clampByte (res.getD (16 * (first + ((r / 4) * 2 + c / 4)) + 4 * (r % 4) + c % 4) 0 +
        ((match chromaMode with
          | 1 => Vp8Pred.predict 10 ws 8 1 1 9 true true
          | 2 => Vp8Pred.predict 11 ws 8 1 1 9 true true
          | 3 => Vp8Pred.predict 1 ws 8 1 1 9 true true
          | _ => Vp8Pred.predict 12 ws 8 1 1 9 (mby != 0) (mbx != 0)).getD (Vp8IntraProof.at8 r c) 0 : Nat)) :=
  Vp8IntraProof.chroma_recon mbx mby chromaMode first hf res ws hres hws r c hr hc

/-! ### loop-filter kernels = RFC 6386 section 15 -/

def seg (e : Edge) : RFC.LF.Seg := ⟨e.p3, e.p2, e.p1, e.p0, e.q0, e.q1, e.q2, e.q3⟩
def edge (s : RFC.LF.Seg) : Edge := ⟨s.P3, s.P2, s.P1, s.P0, s.Q0, s.Q1, s.Q2, s.Q3⟩

theorem c_eq (v : Int) : Vp8K.c v = RFC.LF.c v := by
  unfold Vp8K.c RFC.LF.c
  by_cases h1 : v < -128
  · rw [if_pos h1, Int.min_eq_left (by omega), Int.max_eq_left (Int.le_of_lt h1)]
  · rw [if_neg h1]
    by_cases h2 : v < 128
    · rw [if_pos h2, Int.min_eq_left (by omega), Int.max_eq_right (Int.not_lt.mp h1)]
    · rw [if_neg h2, Int.min_eq_right (by omega)]; rfl

theorem sar_eq (v : Int) (k : Nat) : sar v k = v / 2 ^ k := by
  unfold sar; exact Int.fdiv_eq_ediv_of_nonneg v (Int.pow_nonneg (by decide))

theorem s2u_eq (v : Int) : Vp8K.s2u v = RFC.LF.s2u v := by
  unfold Vp8K.s2u RFC.LF.s2u; rw [c_eq]

theorem s2u_byte (v : Int) : Vp8K.s2u v < 256 := by
  unfold Vp8K.s2u Vp8K.c; omega

theorem diff_eq_raw (a b : Nat) : (diff a b : Int) = RFC.LF.abs ((a : Int) - b) := by
  unfold diff RFC.LF.abs
  by_cases h : a > b
  · rw [if_pos h, if_neg (by omega), Int.ofNat_sub (Nat.le_of_lt h)]
  · rw [if_neg h, Int.ofNat_sub (Nat.not_lt.mp h)]
    split <;> omega

/-- u8 `abs_diff` is the RFC's `abs` of the difference of the int8 values -/
theorem diff_eq (a b : Nat) : (diff a b : Int) = RFC.LF.abs (RFC.LF.u2s a - RFC.LF.u2s b) := by
  rw [diff_eq_raw, show RFC.LF.u2s a - RFC.LF.u2s b = (a : Int) - b by unfold RFC.LF.u2s; omega]

theorem commonAdjust_eq (o : Bool) (e : Edge) :
    Vp8K.commonAdjust o e = RFC.LF.commonAdjust o (seg e) := by
  unfold Vp8K.commonAdjust RFC.LF.commonAdjust seg
  simp only [sar_eq, c_eq, s2u_eq]
  rfl

theorem simpleThreshold_eq (limit : Nat) (e : Edge) :
    simpleThreshold limit e =
      decide (RFC.LF.abs ((e.p0 : Int) - e.q0) * 2 + RFC.LF.abs ((e.p1 : Int) - e.q1) / 2 ≤ limit) := by
  unfold simpleThreshold; rw [diff_eq_raw, diff_eq_raw]

theorem simpleThreshold_eq_s (limit : Nat) (e : Edge) :
    simpleThreshold limit e =
      decide (RFC.LF.abs (RFC.LF.u2s e.p0 - RFC.LF.u2s e.q0) * 2 + RFC.LF.abs (RFC.LF.u2s e.p1 - RFC.LF.u2s e.q1) / 2 ≤ limit) := by
  unfold simpleThreshold; rw [diff_eq, diff_eq]

/-- `simple_segment` equals the RFC's for every segment and limit -/
theorem simple_eq_rfc (limit : Nat) (e : Edge) :
    simple limit e = edge (RFC.LF.simpleSegment limit (seg e)) := by
  unfold simple RFC.LF.simpleSegment
  rw [simpleThreshold_eq]
  by_cases h : RFC.LF.abs ((e.p0 : Int) - e.q0) * 2 + RFC.LF.abs ((e.p1 : Int) - e.q1) / 2 ≤ limit
  · have h' : RFC.LF.abs (((seg e).P0 : Int) - (seg e).Q0) * 2 + RFC.LF.abs (((seg e).P1 : Int) - (seg e).Q1) / 2 ≤ limit := h
    simp only [h, h', decide_true, if_true, commonAdjust_eq]
    rfl
  · have h' : ¬ RFC.LF.abs (((seg e).P0 : Int) - (seg e).Q0) * 2 + RFC.LF.abs (((seg e).P1 : Int) - (seg e).Q1) / 2 ≤ limit := h
    simp only [h, h', decide_false, if_false]
    rfl

theorem natLe_eq (a b : Nat) (x : Int) (h : (a : Int) = x) : decide (a ≤ b) = decide (x ≤ (b : Int)) := by
  subst h; simp

theorem shouldFilter_eq (I E : Nat) (e : Edge) : shouldFilter I E e = RFC.LF.filterYes I E (seg e) := by
  unfold shouldFilter RFC.LF.filterYes
  rw [simpleThreshold_eq_s]
  simp only [natLe_eq _ _ _ (diff_eq _ _)]
  rfl

theorem hev_eq (t : Nat) (e : Edge) : highEdgeVariance t e = RFC.LF.hev t (seg e) := by
  unfold highEdgeVariance RFC.LF.hev
  have k : ∀ a b : Nat, decide (diff a b > t) = decide (RFC.LF.abs (RFC.LF.u2s a - RFC.LF.u2s b) > (t : Int)) := by
    intro a b; rw [← diff_eq]; simp
  simp only [k]
  rfl

/-- `subblock_filter` equals the RFC's for every segment and parameter triple -/
theorem subblock_eq_rfc (h I E : Nat) (e : Edge) :
    subblock h I E e = edge (RFC.LF.subblockFilter h I E (seg e)) := by
  unfold subblock RFC.LF.subblockFilter
  rw [shouldFilter_eq, hev_eq]
  cases RFC.LF.filterYes I E (seg e) <;> cases hh : RFC.LF.hev h (seg e) <;>
    simp only [if_true, if_false, Bool.false_eq_true, Bool.not_true, Bool.not_false, commonAdjust_eq, sar_eq, s2u_eq] <;> rfl

/-- `macroblock_filter` equals the RFC's `MBfilter` for every segment and parameter triple -/
theorem macroblock_eq_rfc (h I E : Nat) (e : Edge) :
    macroblock h I E e = edge (RFC.LF.mbFilter h I E (seg e)) := by
  unfold macroblock RFC.LF.mbFilter
  rw [shouldFilter_eq, hev_eq]
  cases RFC.LF.filterYes I E (seg e) <;> cases hh : RFC.LF.hev h (seg e) <;>
    simp only [if_true, if_false, Bool.false_eq_true, Bool.not_true, Bool.not_false, commonAdjust_eq, sar_eq, s2u_eq, c_eq] <;> rfl

/-- libwebp tests `4*|p0-q0| + |p1-q1| <= 2*t+1`; the same decision as the RFC's -/
theorem simple_threshold_libwebp (a b t : Nat) : (2 * a + b / 2 ≤ t) ↔ (4 * a + b ≤ 2 * t + 1) := by omega

/-- the code's level is the RFC reference decoder's for every header (deltas are 0 unless enabled) -/
theorem level_eq_rfc (frameLevel sharp : Nat) (segEn segDelta : Bool) (segLevel ref0 mode0 : Int) (bpred en : Bool)
    (hen : en = false → ref0 = 0 ∧ mode0 = 0) :
    ((filterParams frameLevel sharp segEn segDelta segLevel ref0 mode0 bpred).1 : Int) =
      RFC.LF.level frameLevel segEn (!segDelta) segLevel en ref0 mode0 bpred := by
  show ((clamp63 _).toNat : Int) = _
  rw [Int.toNat_of_nonneg (clamp63_range _).1]
  unfold RFC.LF.level
  simp only [← clamp63_eq]
  have hb : (if (!segDelta) = true then segLevel else (frameLevel : Int) + segLevel) =
      if segDelta = true then (frameLevel : Int) + segLevel else segLevel := by cases segDelta <;> rfl
  rw [hb]
  generalize (if segEn = true then if segDelta = true then (frameLevel : Int) + segLevel else segLevel
    else (frameLevel : Int)) = l0
  cases en
  · obtain ⟨rfl, rfl⟩ := hen rfl
    rw [if_neg Bool.false_ne_true, ite_self, Int.add_zero, Int.add_zero]
    exact clamp63_of_range (clamp63_range l0).1 (clamp63_range l0).2
  · rw [if_pos rfl]
    cases bpred
    · rw [if_neg Bool.false_ne_true, if_neg Bool.false_ne_true, Int.add_zero]
    · rw [if_pos rfl, if_pos rfl]

theorem il_eq (L sharp : Nat) (_hs : sharp ≤ 7) :
    (if (if sharp > 0 then min (L >>> (if sharp > 4 then 2 else 1)) (9 - sharp) else L) = 0 then 1
      else (if sharp > 0 then min (L >>> (if sharp > 4 then 2 else 1)) (9 - sharp) else L)) =
    RFC.LF.interiorLimit L sharp := by
  have sh : L >>> (if sharp > 4 then 2 else 1) = if sharp > 4 then L / 4 else L / 2 := by
    split <;> exact Nat.shiftRight_eq_div_pow _ _
  have mn : ∀ a b : Nat, min a b = if a > b then b else a := fun a b => by
    rw [Nat.min_def]; split <;> split <;> omega
  rw [sh, mn]
  rfl

theorem interior_eq_rfc (frameLevel sharp : Nat) (segEn segDelta : Bool) (segLevel ref0 mode0 : Int) (bpred : Bool)
    (hs : sharp ≤ 7) :
    let r := filterParams frameLevel sharp segEn segDelta segLevel ref0 mode0 bpred
    r.2.1 = RFC.LF.interiorLimit r.1 sharp ∧ r.2.2 = RFC.LF.hevThreshold r.1 :=
  ⟨il_eq _ sharp hs, rfl⟩

/-- `params_range` with `filterParams` unfolded at level `L`: the nested `if` is its interior limit
    (the two `let il` lines of its body) -/
theorem range_aux (L sharp : Nat) (hl : L ≤ 63) :
    L ≤ 63 ∧
    1 ≤ (if (if sharp > 0 then min (L >>> (if sharp > 4 then 2 else 1)) (9 - sharp) else L) = 0 then 1
      else (if sharp > 0 then min (L >>> (if sharp > 4 then 2 else 1)) (9 - sharp) else L)) ∧
    (if (if sharp > 0 then min (L >>> (if sharp > 4 then 2 else 1)) (9 - sharp) else L) = 0 then 1
      else (if sharp > 0 then min (L >>> (if sharp > 4 then 2 else 1)) (9 - sharp) else L)) ≤ 63 ∧
    (if L ≥ 40 then 2 else if L ≥ 15 then 1 else 0) ≤ 2 ∧
    mbEdgeLimit L (if (if sharp > 0 then min (L >>> (if sharp > 4 then 2 else 1)) (9 - sharp) else L) = 0 then 1
      else (if sharp > 0 then min (L >>> (if sharp > 4 then 2 else 1)) (9 - sharp) else L)) ≤ 193 ∧
    subEdgeLimit L (if (if sharp > 0 then min (L >>> (if sharp > 4 then 2 else 1)) (9 - sharp) else L) = 0 then 1
      else (if sharp > 0 then min (L >>> (if sharp > 4 then 2 else 1)) (9 - sharp) else L)) ≤ 189 := by
  -- before its floor at 1 the interior limit is at most the level
  have hX : (if sharp > 0 then min (L >>> (if sharp > 4 then 2 else 1)) (9 - sharp) else L) ≤ L := by
    split
    · exact Nat.le_trans (Nat.min_le_left _ _) (Nat.shiftRight_le _ _)
    · exact Nat.le_refl L
  generalize (if sharp > 0 then min (L >>> (if sharp > 4 then 2 else 1)) (9 - sharp) else L) = x at hX ⊢
  have hI : 1 ≤ (if x = 0 then 1 else x) ∧ (if x = 0 then 1 else x) ≤ 63 := by split <;> omega
  rw [(edgeLimits _ _).1, (edgeLimits _ _).2]
  refine ⟨hl, hI.1, hI.2, ?_, by omega, by omega⟩
  split <;> (try split) <;> omega

theorem level_le (v : Int) : (clamp63 v).toNat ≤ 63 := by have := clamp63_range v; omega

/-- ranges: level 0..63, interior limit 1..63, hev threshold 0..2; both edge limits fit a u8
    (`(filter_level + 2) * 2 + interior_limit` is computed in u8 in `loop_filter`) -/
theorem params_range (frameLevel sharp : Nat) (segEn segDelta : Bool) (segLevel ref0 mode0 : Int) (bpred : Bool) :
    let r := filterParams frameLevel sharp segEn segDelta segLevel ref0 mode0 bpred
    r.1 ≤ 63 ∧ 1 ≤ r.2.1 ∧ r.2.1 ≤ 63 ∧ r.2.2 ≤ 2 ∧ mbEdgeLimit r.1 r.2.1 ≤ 193 ∧ subEdgeLimit r.1 r.2.1 ≤ 189 :=
  range_aux _ sharp (level_le _)

/-- libwebp's level (no clamp between the segment step and the deltas) -/
def libwebpLevel (frameLevel : Nat) (segEn segDelta : Bool) (segLevel ref0 mode0 : Int) (bpred : Bool) : Int :=
  let base : Int := if segEn then (if segDelta then segLevel + frameLevel else segLevel) else frameLevel
  let l := base + ref0 + (if bpred then mode0 else 0)
  if l < 0 then 0 else if l > 63 then 63 else l

/-- whenever the segment-adjusted level is already inside 0..63, the code, the RFC and libwebp
    agree on the level (otherwise the RFC's clamp order, which the code follows, is normative) -/
theorem level_eq_libwebp (frameLevel sharp : Nat) (segEn segDelta : Bool) (segLevel ref0 mode0 : Int) (bpred : Bool)
    (hb : 0 ≤ (if segEn then (if segDelta then (frameLevel : Int) + segLevel else segLevel) else frameLevel) ∧
          (if segEn then (if segDelta then (frameLevel : Int) + segLevel else segLevel) else (frameLevel : Int)) ≤ 63) :
    ((filterParams frameLevel sharp segEn segDelta segLevel ref0 mode0 bpred).1 : Int) =
      libwebpLevel frameLevel segEn segDelta segLevel ref0 mode0 bpred := by
  show ((clamp63 (clamp63 _ + ref0 + _)).toNat : Int) = _
  rw [Int.toNat_of_nonneg (clamp63_range _).1, clamp63_of_range hb.1 hb.2]
  unfold libwebpLevel
  dsimp only
  rw [Int.add_comm segLevel]
  generalize (if segEn = true then if segDelta = true then (frameLevel : Int) + segLevel else segLevel
    else (frameLevel : Int)) + ref0 + (if bpred = true then mode0 else 0) = l
  rw [clamp63_eq]
  split <;> (try split) <;> omega

/-- libwebp filters macroblock edges with `f_limit + 4` and inner edges with
    `f_limit = 2 * level + ilevel` -/
theorem edge_limits_libwebp (l i : Nat) : subEdgeLimit l i = 2 * l + i ∧ mbEdgeLimit l i = (2 * l + i) + 4 :=
  edgeLimits l i

theorem commonAdjust_bytes (o : Bool) (e : Edge) :
    (Vp8K.commonAdjust o e).1 < 256 ∧ (Vp8K.commonAdjust o e).2.1 < 256 := by
  unfold Vp8K.commonAdjust; exact ⟨s2u_byte _, s2u_byte _⟩

def edgeBytes (e : Edge) : Prop :=
  e.p3 < 256 ∧ e.p2 < 256 ∧ e.p1 < 256 ∧ e.p0 < 256 ∧ e.q0 < 256 ∧ e.q1 < 256 ∧ e.q2 < 256 ∧ e.q3 < 256

theorem simple_bytes (l : Nat) (e : Edge) (h : edgeBytes e) : edgeBytes (simple l e) := by
  unfold simple; split
  · obtain ⟨h1, h2, h3, h4, h5, h6, h7, h8⟩ := h
    exact ⟨h1, h2, h3, (commonAdjust_bytes true e).1, (commonAdjust_bytes true e).2, h6, h7, h8⟩
  · exact h

theorem subblock_bytes (hv i l : Nat) (e : Edge) (h : edgeBytes e) : edgeBytes (subblock hv i l e) := by
  obtain ⟨h1, h2, h3, h4, h5, h6, h7, h8⟩ := h
  unfold subblock; split
  · split
    · exact ⟨h1, h2, s2u_byte _, (commonAdjust_bytes _ e).1, (commonAdjust_bytes _ e).2, s2u_byte _, h7, h8⟩
    · exact ⟨h1, h2, h3, (commonAdjust_bytes _ e).1, (commonAdjust_bytes _ e).2, h6, h7, h8⟩
  · exact ⟨h1, h2, h3, h4, h5, h6, h7, h8⟩

theorem macroblock_bytes (hv i l : Nat) (e : Edge) (h : edgeBytes e) : edgeBytes (macroblock hv i l e) := by
  obtain ⟨h1, h2, h3, h4, h5, h6, h7, h8⟩ := h
  unfold macroblock; split
  · split
    · exact ⟨h1, s2u_byte _, s2u_byte _, s2u_byte _, s2u_byte _, s2u_byte _, s2u_byte _, h8⟩
    · exact ⟨h1, h2, h3, (commonAdjust_bytes _ e).1, (commonAdjust_bytes _ e).2, h6, h7, h8⟩
  · exact ⟨h1, h2, h3, h4, h5, h6, h7, h8⟩

/-- non-vacuity: a concrete edge that all three kernels change -/
example : simple 60 ⟨10, 10, 10, 10, 30, 30, 30, 30⟩ ≠ ⟨10, 10, 10, 10, 30, 30, 30, 30⟩ ∧
    subblock 1 20 60 ⟨10, 10, 10, 10, 30, 30, 30, 30⟩ ≠ ⟨10, 10, 10, 10, 30, 30, 30, 30⟩ ∧
    macroblock 1 20 60 ⟨10, 10, 10, 10, 30, 30, 30, 30⟩ ≠ ⟨10, 10, 10, 10, 30, 30, 30, 30⟩ := by decide

/-- **The context bookkeeping of coefficient decoding is the RFC rule.**  `Vp8Ctx.run` models what
    `decode_frame_` / `read_residual_data` do with the `top[mbx].complexity` and `left.complexity`
    arrays (nine flags per macroblock column and for the left neighbour: Y2, four luma, two U, two
    V; `left` cleared at every row start; all but - for B_PRED macroblocks - the Y2 flag zeroed for
    macroblocks without coefficients; every flag overwritten by the result of the block just
    read).  For EVERY frame size, every assignment of Y2 / skip flags to macroblocks and every
    pattern of block results, the context passed to each `read_coefficients` call is the one
    RFC 6386 section 13.3 defines geometrically: the number of the block's left and above
    neighbours in its plane (across macroblock borders, 0 outside the frame, skipped macroblocks
    counting as empty) that have a non-zero coefficient, and for a Y2 block the nearest
    macroblocks to the left in the row / above in the column that HAVE a Y2 block. -/
theorem coefficient_contexts_are_rfc (f : Vp8Ctx.Frame) : ∀ c ∈ Vp8Ctx.run f, c.ctx = Vp8Ctx.specCtx f c :=
  Vp8Ctx.run_spec f

-- non-vacuity: a 2x1 frame; the second macroblock has no Y2 and sees the first one's flags
def exFrame : Vp8Ctx.Frame :=
  ⟨2, 1, fun x _ => x == 0, fun _ _ => false, fun _ _ => true, fun bx _ => bx < 4, fun _ _ => false, fun _ _ => true⟩
example : (Vp8Ctx.run exFrame).length = 49 ∧ ((Vp8Ctx.run exFrame).map (·.ctx)).take 10 = [0, 0, 1, 1, 1, 1, 2, 2, 2, 1] ∧
    (((Vp8Ctx.run exFrame).map (·.ctx)).drop 25).take 5 = [1, 0, 0, 0, 1] := by decide

/-- **The sub-block mode contexts are the RFC rule.**  `Vp8Mode.run` models what
    `read_macroblock_header` does with `top[mbx].bpred[12..16]` and `left.bpred[0..4]` (the modes
    of the bottom row of the macroblock above and of the right column of the macroblock to the
    left, overwritten sub-block by sub-block while a B_PRED macroblock is read, set to the implied
    mode by a macroblock with a 16x16 mode, `left` reset at every row start).  For EVERY frame
    size, every assignment of B_PRED / 16x16 modes and every pattern of sub-block modes, the two
    contexts that select the probabilities of each sub-block mode read are the modes of the
    sub-blocks above and to the left as RFC 6386 section 11.3 defines them (across macroblock
    borders; a 16x16 macroblock counts as sixteen sub-blocks of its implied mode; B_DC_PRED
    outside the frame). -/
theorem subblock_mode_contexts_are_rfc (f : Vp8Mode.Frame) :
    ∀ c ∈ Vp8Mode.run f, c.top = Vp8Mode.specTop f c ∧ c.left = Vp8Mode.specLeft f c :=
  Vp8Mode.run_spec f

-- non-vacuity: a 16x16 macroblock (implied mode 2) to the left of a B_PRED macroblock
def exModes : Vp8Mode.Frame := ⟨2, 1, 0, fun x _ => x == 1, fun _ _ => 2, fun bx by' => (bx + by') % 10⟩
example : ((Vp8Mode.run exModes).map fun c => (c.top, c.left)).take 6 = [(0, 2), (0, 4), (0, 5), (0, 6), (4, 2), (5, 5)] := by decide

/-- **The luma prediction borders are the RFC rule.**  `Vp8Border.run` models `top_border`,
    `left_border` and `create_border_luma`: the buffers are overwritten with the bottom row and
    the right column of every reconstructed macroblock, `left_border[0]` keeps the last pixel above
    the macroblock just done (the next macroblock's corner, saved before the row above is
    overwritten), `left_border` is reset to 129 after every row.  For EVERY frame size and every
    reconstruction, the 37 border pixels each macroblock is predicted from - corner, sixteen above,
    four above-right, sixteen left - are the neighbouring (unfiltered) pixels of the reconstructed
    frame as RFC 6386 section 12 defines them: 127 above the first row, 129 left of the first
    column (and for its corner below the first row), the above-right pixels from the macroblock
    above-right, and in the last column the last pixel above repeated. -/
theorem luma_borders_are_rfc (f : Vp8Border.Frame) : ∀ b ∈ Vp8Border.run f, Vp8Border.Good f b :=
  Vp8Border.run_spec f

-- non-vacuity: a 2x2 frame; the last macroblock's corner is the bottom-right pixel of the first
def exBorders : Vp8Border.Frame := ⟨2, 2, fun mbx mby x y => 10 * mbx + 100 * mby + x + y⟩
example : ((Vp8Border.run exBorders).map fun b => (b.corner, b.above 0, b.aboveRight 3, b.left 15)) =
    [(127, 127, 127, 129), (127, 127, 127, 30), (129, 15, 28, 129), (30, 25, 40, 130)] := by decide

/-! ### intra prediction

`Vp8Pred.predict` is the model of the fourteen predictor functions of vp8.rs on the prediction
workspace (tied to the real functions on random workspaces, offsets and strides through hook
5cd911b, byte for byte over the whole workspace).  The reference is libwebp's C implementation of
the RFC 6386 section 12 predictors (`Vp8PredSpec`, transcribed from `src/dsp/dec.c`). -/

/-- **The sub-block predictors** other than B_TM (B_DC, B_VE, B_HE, B_LD, B_RD, B_VR, B_VL, B_HD,
    B_HU by the hook's numbering 0, 2..9): at every block position of every workspace, every pixel of the 4x4
    block receives exactly the reference predictor's value for the thirteen neighbouring pixels
    found in the workspace -/
theorem subblock_predictors_are_reference (kind : Nat) (hk : kind = 0 ∨ (2 ≤ kind ∧ kind ≤ 9)) (a : Array Nat)
    (size x0 y0 stride : Nat) (ab lf : Bool) (hs : x0 + 4 ≤ stride) (hsz : (y0 + 4) * stride ≤ a.size)
    (r c : Nat) (hr : r < 4) (hc : c < 4) :
    (Vp8Pred.predict kind a size x0 y0 stride ab lf)[(y0 + r) * stride + x0 + c]! =
      Vp8PredProof.ref4 kind (Vp8PredProof.refN (Vp8Pred.nbOf a x0 y0 stride)) c r :=
  Vp8PredProof.predict_subblock kind hk a size x0 y0 stride ab lf hs hsz r c hr hc

/-- **TrueMotion** for every block size (4x4 sub-blocks, 8x8 chroma, 16x16 luma), position and
    workspace: `clip(top[x] + left[y] − topleft)` -/
theorem truemotion_is_reference (a : Array Nat) (size x0 y0 stride : Nat) (ab lf : Bool) (hx : 1 ≤ x0) (hy : 1 ≤ y0)
    (hs : x0 + size ≤ stride) (hsz : (y0 + size) * stride ≤ a.size) (r c : Nat) (hr : r < size) (hc : c < size) :
    (Vp8Pred.predict 1 a size x0 y0 stride ab lf)[(y0 + r) * stride + x0 + c]! =
      Vp8PredSpec.TM a[(y0 - 1) * stride + x0 - 1]! (fun x => a[(y0 - 1) * stride + x0 + x]!)
        (fun y => a[(y0 + y) * stride + x0 - 1]!) c r :=
  Vp8PredProof.predict_tm a size x0 y0 stride ab lf hs hsz r c hr hc

/-- **vertical and horizontal prediction** of a `size × size` block as the decoder calls them
    (block at row 1, column 1 of its workspace): the pixel above resp. to the left -/
theorem vertical_horizontal_are_reference (a : Array Nat) (size stride : Nat) (ab lf : Bool)
    (hs : 1 + size ≤ stride) (hsz : (1 + size) * stride ≤ a.size) (r c : Nat) (hr : r < size) (hc : c < size) :
    (Vp8Pred.predict 10 a size 1 1 stride ab lf)[(1 + r) * stride + 1 + c]! = a[1 + c]! ∧
    (Vp8Pred.predict 11 a size 1 1 stride ab lf)[(1 + r) * stride + 1 + c]! = a[(1 + r) * stride]! :=
  ⟨Vp8PredProof.predict_v a size stride ab lf hs hsz r c hr hc,
   Vp8PredProof.predict_h a size stride ab lf hs hsz r c hr hc⟩

/-- **DC prediction** of the 16x16 luma and 8x8 chroma blocks for each of the four availability
    cases (frame corner, top row, left column, interior): the block is filled with the reference's
    `DC16*` / `DC8uv*` value -/
theorem dc_is_reference (a : Array Nat) (hbytes : ∀ i : Nat, a[i]! < 256) (size : Nat) (h816 : size = 8 ∨ size = 16)
    (x0 y0 stride : Nat) (ab lf : Bool) (hs : 1 + size ≤ stride) (hsz : (1 + size) * stride ≤ a.size)
    (r c : Nat) (hr : r < size) (hc : c < size) :
    (Vp8Pred.predict 12 a size x0 y0 stride ab lf)[(1 + r) * stride + 1 + c]! =
      Vp8PredSpec.DC size (fun x => a[1 + x]!) (fun y => a[(y + 1) * stride]!) ab lf := by
  rw [Vp8PredProof.predict_dc 12 (by decide) a size x0 y0 stride ab lf hs hsz r c hr hc]
  exact Vp8PredProof.dcVal_ref a hbytes size h816 stride ab lf

-- non-vacuity: the luma workspace (21 x 17) meets the hypotheses at sub-block (3, 3)
example : (13 : Nat) + 4 ≤ 21 ∧ (13 + 4) * 21 ≤ (Array.replicate (21 * 17) 0).size := by
  rw [Array.size_replicate]; decide

/-! ### token decoding

`Vp8Coef.readCoefficients` is the model of `Vp8Decoder::read_coefficients` on top of the boolean
decoder model of C15 (band / context selection, the token tree entered at node `skip`, the
category extra bits, sign, dequantisation at the zigzag position, `has_coefficients`, the final
`check`), tied to the real function through hook 99a8eca on random and biased partitions, default
and random probability tables, all planes and contexts, several calls per partition. -/

/-- **No coefficient overflows.**  For every partition, probability table, plane, starting context
    and quantiser pair: every value `read_coefficients` leaves in the block is at most 2114
    quantiser steps in magnitude (the largest token value is 67 + 2^11 − 1 = 2114, inside i16;
    with i16 quantisers the product stays below 2^27, inside i32) -/
theorem coefficients_are_bounded (d : Arith.Dec) (probs : Nat → Nat → List Nat) (plane complexity : Nat) (dcq acq : Int) (Q : Nat)
    (hd : dcq.natAbs ≤ Q) (ha : acq.natAbs ≤ Q) (d' : Arith.Dec) (block : Array Int) (r : Option Bool)
    (h : Vp8Coef.readCoefficients d probs plane complexity dcq acq = some (d', block, r)) :
    ∀ z : Nat, (block[z]?.getD 0).natAbs ≤ 2114 * Q :=
  Vp8CoefProof.coefficients_bounded d probs plane complexity dcq acq Q hd ha d' block r h

/-- **Token decoding = the reference.**  One position of the token loop of `read_coefficients`
    (`Vp8Coef.stepAt`: the walk over `DCT_TOKEN_TREE` entered at the root or - after a zero token -
    at node 1, the literal tokens, the six categories with their extra bits from `PROB_DCT_CAT` and
    bases from `DCT_CAT_BASE`) decodes, for EVERY well-formed decoder state, every probability
    table, position, context and quantiser pair, exactly the token libwebp's `GetCoeffs` /
    `GetLargeValue` decode with explicit bit tests on `p[0..10]`, the constants 159 / 165 / 145 and
    the tables `kCat3..kCat6` (`Vp8Tokens.token`, transcribed from `src/dec/vp8_dec.c`), using the
    same public bit reads - and then does with it what `applyTok` says (stop; note the zero; or
    read the sign, dequantise and store at the zigzag position, next context min(v, 2)) -/
theorem token_decoding_is_reference (probs : Nat → Nat → List Nat)
    (hprobs : ∀ band ctx, (probs band ctx).length = 11 ∧ ∀ p ∈ probs band ctx, p < 256)
    (dcq acq : Int) (i : Nat) (s : Vp8Coef.St) (hwf : Arith.WF s.d) :
    Vp8Coef.stepAt probs dcq acq i s =
      some (Vp8TokProof.applyTok dcq acq i s
        (Vp8Tokens.token Vp8TokProof.pub (fun k => (probs (Gen.Tables.COEFF_BANDS.getD i 0) s.complexity).getD k 0) s.skip s.d)) :=
  Vp8TokProof.stepAt_is_reference probs hprobs dcq acq i s hwf

end C02
