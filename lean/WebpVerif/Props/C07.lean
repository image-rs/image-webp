import WebpVerif.Props.C06

/-!
# C07 — animation playback is independent of the history of API calls

The abstract player of `Canvas.runSpec` has one piece of state, a cursor: `read_frame` delivers
the frame under the cursor (its buffer is the canvas fold, a function of the cursor alone) and
advances; `reset_animation` sets the cursor to 0; `read_image` delivers the first frame and does
not move the cursor; at the end `read_frame` reports `NoMoreFrames`.  The theorem: for every valid
animation and EVERY finite sequence of calls, the model of the decoder returns exactly what the
abstract player returns.
-/
namespace C07
open Anim Canvas Blend C06

/-- one call: same output, and the decoder state stays the state "after `c` frames" -/
theorem step_refines (f : File) (hv : Valid f) (c : Nat) (st : State) (hc : c ≤ f.frames.length)
    (hst : StateAt f c st) (op : Op) :
    (step f st op).1 = (stepSpec blendPixel f c op).1 ∧
    StateAt f (stepSpec blendPixel f c op).2 (step f st op).2 ∧
    (stepSpec blendPixel f c op).2 ≤ f.frames.length := by
  cases op with
  | readFrame =>
    unfold step stepSpec
    cases hfr : f.frames[c]? with
    | none =>
      rw [no_more_frames f st (hst.1 ▸ List.getElem?_eq_none_iff.mp hfr)]
      exact ⟨rfl, hst, hc⟩
    | some fr =>
      obtain ⟨h1, h2⟩ := readFrame_out f hv.1 hv.2 c st fr hst hfr
      exact ⟨h1, h2, (List.getElem?_eq_some_iff.mp hfr).1⟩
  | reset =>
    unfold step stepSpec reset
    exact ⟨rfl, stateAt_default f, Nat.zero_le _⟩
  | readImage =>
    unfold step stepSpec readImage
    cases hfr : f.frames[0]? with
    | none =>
      rw [no_more_frames f State.default (List.getElem?_eq_none_iff.mp hfr)]
      exact ⟨rfl, hst, hc⟩
    | some fr =>
      exact ⟨(readFrame_out f hv.1 hv.2 0 _ fr (stateAt_default f) hfr).1, hst, hc⟩

/-- **Trace refinement.**  Every sequence of `read_frame` / `reset_animation` / `read_image` calls
    on a decoder in the state "after `c` frames" returns what the abstract player returns from
    cursor `c`. -/
theorem trace_refines_from (f : File) (hv : Valid f) (ops : List Op) :
    ∀ (c : Nat) (st : State), c ≤ f.frames.length → StateAt f c st →
      run f st ops = runSpec blendPixel f c ops := by
  induction ops with
  | nil => intro c st _ _; rfl
  | cons op ops ih =>
    intro c st hc hst
    obtain ⟨h1, h2, h3⟩ := step_refines f hv c st hc hst op
    unfold run runSpec
    rw [h1, ih _ _ h3 h2]

/-- from a fresh decoder -/
theorem trace_refines (f : File) (hv : Valid f) (ops : List Op) :
    run f State.default ops = runSpec blendPixel f 0 ops :=
  trace_refines_from f hv ops 0 State.default (Nat.zero_le _) (stateAt_default f)

/-- corollary: the i-th frame delivered after a reset is the i-th frame of a fresh decoder,
    whatever was called before the reset -/
theorem after_reset_like_fresh (f : File) (hv : Valid f) (before after : List Op) (c : Nat) (st : State)
    (hc : c ≤ f.frames.length) (hst : StateAt f c st) :
    (run f st (before ++ [.reset] ++ after)).drop (before.length + 1) = run f State.default after := by
  rw [trace_refines_from f hv _ c st hc hst, trace_refines f hv after]
  have key : ∀ (ops : List Op) (c : Nat), (runSpec blendPixel f c (ops ++ [.reset] ++ after)).drop (ops.length + 1) =
      runSpec blendPixel f 0 after := by
    intro ops
    induction ops with
    | nil => intro c; simp [runSpec, stepSpec]
    | cons o os ih => intro c; simp only [List.cons_append, List.length_cons, runSpec]; exact ih _
  exact key before c

/-- `read_image` does not move the abstract player's cursor (by `trace_refines`, no later output of
    the decoder can tell that it was called) -/
theorem read_image_keeps_position (f : File) (c : Nat) :
    (stepSpec blendPixel f c .readImage).2 = c := by
  unfold stepSpec; cases f.frames[0]? <;> rfl

-- non-vacuity: the theorem applies to the demo animation, on a history with every kind of call
example : run C06.demo State.default [.readFrame, .readImage, .readFrame, .readFrame, .reset, .readFrame] =
    runSpec blendPixel C06.demo 0 [.readFrame, .readImage, .readFrame, .readFrame, .reset, .readFrame] := by decide +kernel

end C07
