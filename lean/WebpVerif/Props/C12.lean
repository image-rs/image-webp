import WebpVerif.Lemmas.Blend

/-!
# C12 — alpha blending is exact at the extremes and tightly bounded elsewhere

All statements quantify over every source / destination pixel with byte-valued components
(that is all 2^32 (s, sa, d, da) tuples per channel; the three colour channels are computed
independently by `Blend.chan`).  Nothing here is enumeration: the bounds are arithmetic.
-/
namespace C12
open Blend

def Byte (p : Px) : Prop := p.r < 256 ∧ p.g < 256 ∧ p.b < 256 ∧ p.a < 256

/-- The opaque clause of the property, at full strength, for the function the code implements.
    It is FALSE of the pinned tree (see `opaque_full_false`); it is kept as a proposition. -/
def opaque_full : Prop :=
  ∀ src dst : Px, Byte src → Byte dst → src.a = 255 → blendPixel src dst = src

/-- kernel-checked witness that the pinned tree violates the opaque clause (known finding
    KF-C12-opaque; replayed against the real code by the check) -/
theorem opaque_full_false : ¬ opaque_full := by
  intro h
  have := h ⟨100, 150, 200, 255⟩ ⟨7, 9, 11, 200⟩ (by simp [Byte]) (by simp [Byte]) rfl
  revert this; decide

/-- exact size of the deviation: with an opaque source every channel comes back as `s − 1`
    (0 stays 0) and alpha 255, whatever the destination -/
theorem blend_opaque_partial (src dst : Px) (hs : Byte src) (hd : Byte dst) (h : src.a = 255) :
    blendPixel src dst = ⟨src.r - 1, src.g - 1, src.b - 1, 255⟩ := by
  obtain ⟨h1, h2, h3, -⟩ := hs
  have hdf : dstFactor 255 dst.a = 0 := Nat.le_zero.mp (dstFactor_le 255 dst.a hd.2.2.2)
  simp [blendPixel, h, chan_opaque, h1, h2, h3, hdf]

/-- the repaired function satisfies the opaque clause for every pixel pair -/
theorem blend_opaque_fixed (src dst : Px) (h : src.a = 255) : blendPixelFixed src dst = src := by
  unfold blendPixelFixed; simp [h]

/-- and differs from the code only there -/
theorem fixed_eq_off_opaque (src dst : Px) (h : src.a ≠ 255) :
    blendPixelFixed src dst = blendPixel src dst := by
  unfold blendPixelFixed; simp [h]

/-- fully transparent source leaves the destination unchanged -/
theorem blend_transparent (src dst : Px) (h : src.a = 0) : blendPixel src dst = dst := by
  unfold blendPixel; simp [h]

/-- result alpha: `255·ra` is within 127 (< 255, i.e. `ra` within 1) of `255·(sa + da·(255−sa)/255)` -/
theorem blend_alpha_bound (src dst : Px) (hs : Byte src) (hd : Byte dst)
    (h0 : src.a ≠ 0) :
    let ra := (blendPixel src dst).a
    let A' := 255 * src.a + dst.a * (255 - src.a)
    255 * ra ≤ A' + 127 ∧ A' ≤ 255 * ra + 127 ∧ ra < 256 := by
  have hsa := hs.2.2.2
  have hle := dstFactor_le src.a dst.a hd.2.2.2
  have herr := dstFactor_err src.a dst.a hd.2.2.2
  have hra : (blendPixel src dst).a = src.a + dstFactor src.a dst.a := by
    rw [blendPixel, if_neg h0]
    exact Nat.mod_eq_of_lt (by omega)
  dsimp only
  rw [hra]
  omega

/-- every colour channel of `blendPixel` for a non-zero source alpha (255 included) is `chan` -/
theorem blend_channels (src dst : Px) (h0 : src.a ≠ 0) :
    (blendPixel src dst).r = chan src.r src.a dst.r dst.a ∧
    (blendPixel src dst).g = chan src.g src.a dst.g dst.a ∧
    (blendPixel src dst).b = chan src.b src.a dst.b dst.a := by
  unfold blendPixel; simp [h0]

/-- each colour channel lies in `[min s d − 1, max s d + 1]` (in fact `≤ max s d`); this and the
    two theorems below hold for EVERY non-zero source alpha, 255 included -/
theorem blend_channel_range (s sa d da : Nat) (hs : s < 256) (hsa : 1 ≤ sa) (hsa2 : sa < 256)
    (hd : d < 256) (hda : da < 256) :
    min s d ≤ chan s sa d da + 1 ∧ chan s sa d da ≤ max s d + 1 := by
  have := chan_range s sa d da hs hsa hsa2 hd hda
  omega

/-- weighted by result alpha, each channel is within 2 code values of the exact 'over' colour:
    `|r·A' − N'| ≤ 2·255·255` with `A' = 255·(exact alpha)`, `N' = 255·(exact premultiplied colour)` -/
theorem blend_channel_weighted_error (s sa d da : Nat) (hs : s < 256) (hsa : 1 ≤ sa)
    (hsa2 : sa < 256) (hd : d < 256) (hda : da < 256) :
    let A' : Int := 255 * sa + da * (255 - sa : Nat)
    let N' : Int := 255 * s * sa + d * da * (255 - sa : Nat)
    let r : Int := chan s sa d da
    r * A' - N' ≤ 2 * 255 * 255 ∧ N' - r * A' ≤ 2 * 255 * 255 := by
  intro A' N' r
  have hmul := chan_mul s sa d da hs hsa hsa2 hd hda
  unfold unscaled at hmul
  have h := over_error (r := chan s sa d da) (s := s) (d := d) (sa := sa) (dfa := dstFactor sa da)
    (P := da * (255 - sa : Nat)) (by exact_mod_cast hmul.1) (by exact_mod_cast hmul.2)
    (by have := dstFactor_le sa da hda; omega) (by have := dstFactor_err sa da hda; omega)
    (by have := (chan_range s sa d da hs hsa hsa2 hd hda).2; omega)
  rwa [← Int.mul_assoc] at h

/-- the u32 product of `blend_channel_nonpremult` never overflows and both `debug_assert!`s hold
    (also the C03 obligation for this file) -/
theorem blend_no_overflow (s sa d da : Nat) (hs : s < 256) (hsa : 1 ≤ sa) (hsa2 : sa < 256)
    (hd : d < 256) (hda : da < 256) :
    unscaled s sa d (dstFactor sa da) * scaleOf sa da < 2 ^ 32 ∧ sa + dstFactor sa da < 256 := by
  have hdfa := dstFactor_le sa da hda
  refine ⟨?_, by omega⟩
  calc unscaled s sa d (dstFactor sa da) * scaleOf sa da
      ≤ 255 * (sa + dstFactor sa da) * (2 ^ 24 / (sa + dstFactor sa da)) :=
        Nat.mul_le_mul_right _ (unscaled_le s sa d _ hs hd)
    _ = 255 * ((sa + dstFactor sa da) * (2 ^ 24 / (sa + dstFactor sa da))) := Nat.mul_assoc ..
    _ ≤ 255 * 2 ^ 24 := Nat.mul_le_mul_left _ (Nat.mul_div_le ..)
    _ < 2 ^ 32 := by decide

/-- `chanFull` (what tie 2 enumerates) is the per-channel view of `blendPixel` -/
theorem chanFull_is_blendPixel (src dst : Px) :
    (blendPixel src dst).r = chanFull src.r src.a dst.r dst.a ∧
    (blendPixel src dst).g = chanFull src.g src.a dst.g dst.a ∧
    (blendPixel src dst).b = chanFull src.b src.a dst.b dst.a ∧
    (blendPixel src dst).a = alphaFull src.a dst.a := by
  unfold blendPixel chanFull alphaFull
  by_cases h0 : src.a = 0 <;> simp [h0]

-- non-vacuity: concrete pixels meet the hypotheses, and the functions compute non-trivially
example : Byte ⟨100, 150, 200, 128⟩ ∧ Byte ⟨7, 9, 11, 200⟩ := by simp [Byte]
example : blendPixel ⟨100, 150, 200, 128⟩ ⟨7, 9, 11, 200⟩ = ⟨59, 88, 117, 228⟩ := by decide
example : blendPixel ⟨100, 150, 200, 255⟩ ⟨7, 9, 11, 200⟩ = ⟨99, 149, 199, 255⟩ := by decide
example : blendPixelFixed ⟨100, 150, 200, 255⟩ ⟨7, 9, 11, 200⟩ = ⟨100, 150, 200, 255⟩ := by decide

end C12
