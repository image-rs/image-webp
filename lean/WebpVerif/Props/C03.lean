import WebpVerif.Props.C12
import WebpVerif.Props.C15
import WebpVerif.Props.C06
import WebpVerif.Props.C10
import WebpVerif.Model.Container
import WebpVerif.Lemmas.HuffTop
import WebpVerif.Lemmas.LLoop

/-!
# C03 — no byte string makes decoding panic, overflow, hang or index out of bounds

What is a theorem here: for the components that have a model, the arithmetic and indexing
obligations a checked build enforces (the models are total functions; where the Rust code could
panic the model has an explicit failure value and the theorems exclude it):
* alpha blending: the u32 product and both `debug_assert!`s (C12);
* boolean decoder: register invariant ⇒ every shift amount is in range, asserts hold, exhaustion is
  sticky (C15);
* lossless bit reader: `nbits ≤ 63` is invariant ⇒ `debug_assert!(nbits < 64)` and the shifts (C10);
* animation: the geometry checks of `read_frame` imply that `composite_frame` never indexes out of
  bounds (C06), and the canvas size is computed without overflow;
* prefix-code validation: the canonical-code counter stays far below 2^32;
* container scan: every iteration consumes at least 8 input bytes (⇒ at most ⌈len/8⌉ iterations);
* VP8L: the model of the pixel loop of `decode_image_data` never reaches one of its out-of-range cases,
  and `read_symbol` on a valid code never meets an `Empty` node or an index outside its tables.
What is only monitored (corruption stream in a checked build, with a time budget): VP8
reconstruction indices, lossless transforms' slice arithmetic, `decode_image_data` as compiled,
allocation.
-/
namespace C03

/-- blending never overflows u32 and its assertions hold, for every pixel pair -/
theorem blend_safe (s sa d da : Nat) (hs : s < 256) (hsa : 1 ≤ sa) (hsa2 : sa < 256) (hd : d < 256) (hda : da < 256) :
    Blend.unscaled s sa d (Blend.dstFactor sa da) * Blend.scaleOf sa da < 2 ^ 32 ∧ sa + Blend.dstFactor sa da < 256 :=
  C12.blend_no_overflow s sa d da hs hsa hsa2 hd hda

/-- boolean decoder: after any public read the register invariant holds again (so the next
    `split << bit_count` has a shift amount in 0..=31 and `range` is in 128..=255) -/
theorem arith_safe (d : Arith.Dec) (p : Nat) (hp : p < 256) (h : Arith.WF d) :
    Arith.WF (Arith.readBool d p).2 ∧ Arith.WF (Arith.readFlag d).2 ∧
    (∀ n, Arith.WF (Arith.readLiteral d n).2) ∧ (∀ n, Arith.WF (Arith.readOptionalSigned d n).2) :=
  ⟨C15.read_bool_wf d p hp h, C15.read_flag_wf d h, fun n => C15.read_literal_wf d n h, fun n => C15.read_signed_wf d n h⟩

/-- lossless bit reader: `fill` keeps `nbits ≤ 63` (its `debug_assert!`) and a valid window, for
    every schedule, from any state reached from the initial one -/
theorem bitreader_safe (data : List Nat) (hb : ∀ b ∈ data, b < 256) (expose : Nat → Nat) (br : BitReader.BR)
    (h : BitReader.Inv data br) : BitReader.Inv data (BitReader.fill data expose br) :=
  BitReader.fill_inv data hb expose br h

/-- the two geometry checks of `read_frame` are exactly "the frame lies inside the canvas" -/
theorem read_frame_geometry_ok (x y w h cw ch : Nat) (h1 : ¬ (x + w > cw ∨ y + h > ch)) :
    (Anim.Rect.mk x y w h).inside cw ch = true := by
  simp only [Anim.Rect.inside, Bool.and_eq_true, decide_eq_true_eq]
  omega

/-- ... and then `composite_frame` returns (no slice index out of bounds), for every canvas,
    frame content and flag combination -/
theorem composite_no_oob (canvas : Array Blend.Px) (cw ch : Nat) (clear : Option Blend.Px)
    (frame : Array Blend.Px) (fr prev : Anim.Rect) (ha bl : Bool)
    (hfr : fr.inside cw ch = true) (hprev : prev.inside cw ch = true)
    (hc : canvas.size = cw * ch) (hf : frame.size = fr.w * fr.h) :
    (Anim.compositeFrame canvas cw ch clear frame fr ha bl prev).isSome = true := by
  obtain ⟨c', h, _, _⟩ := C06.composite_eq_spec canvas cw ch clear frame fr ha bl prev hfr hprev hc hf
  rw [h]; rfl

/-- the canvas allocation: 24-bit canvas sides times 4 bytes fit a 64-bit `usize` by far -/
theorem canvas_size_fits (cw ch : Nat) (hw : cw ≤ 2 ^ 24) (hh : ch ≤ 2 ^ 24) : cw * ch * 4 < 2 ^ 64 := by
  have : cw * ch ≤ 2 ^ 24 * 2 ^ 24 := Nat.mul_le_mul hw hh
  omega

/-- the canonical-code counter of `build_implicit` (`curr_code = (curr_code + hist[len]) << 1`),
    written out here on an arbitrary histogram for the bound alone; it is not `Huff.nextCodes` -/
def codeCounter (hist : Nat → Nat) : Nat → Nat
  | 0 => 0
  | k + 1 => (codeCounter hist k + hist (k + 1)) * 2

/-- with at most 2328 symbols (the largest alphabet: 280 + 2^11 cache entries) the counter stays
    below 2^32 for all 15 lengths, whatever the lengths are — so the u32 never overflows -/
theorem code_counter_bound (hist : Nat → Nat) (hh : ∀ l, hist l ≤ 2328) (k : Nat) (hk : k ≤ 15) :
    codeCounter hist k < 2 ^ 32 := by
  have key : ∀ k, codeCounter hist k + 2 * 2328 ≤ 2328 * 2 ^ (k + 1) := by
    intro k
    induction k with
    | zero => simp [codeCounter]
    | succ k ih =>
      unfold codeCounter
      have := hh (k + 1)
      rw [Nat.pow_succ 2 (k + 1)]
      omega
  have h2 : 2328 * 2 ^ (k + 1) ≤ 2328 * 2 ^ 16 :=
    Nat.mul_le_mul_left _ (Nat.pow_le_pow_right (by decide) (Nat.succ_le_succ hk))
  exact Nat.lt_of_le_of_lt (Nat.le_trans (Nat.le_add_right _ _) (Nat.le_trans (key k) h2)) (by decide)

/-- reading a chunk header consumes exactly 8 bytes -/
theorem header_consumes_8 (r r' : Container.Reader) (x : List Nat × Nat × Nat)
    (h : Container.readChunkHeader r = .ok (x, r')) : r'.pos = r.pos + 8 ∧ r'.data = r.data := by
  unfold Container.readChunkHeader Container.readExact Container.readLE Container.readExact at h
  by_cases h1 : r.pos + 4 ≤ r.data.length
  · simp only [h1, if_true] at h
    by_cases h2 : r.pos + 4 + 4 ≤ r.data.length
    · simp only [h2, if_true] at h
      simp only [Except.ok.injEq, Prod.mk.injEq] at h
      obtain ⟨_, rfl⟩ := h
      exact ⟨by show r.pos + 4 + 4 = r.pos + 8; omega, rfl⟩
    · simp only [h2, if_false] at h; cases h
  · simp only [h1, if_false] at h; cases h

theorem specCopy_cache_size (c : LLoop.Cfg) (d cache : Array Nat) (index dist : Nat) :
    ∀ len, (LLoop.specCopy c d cache index dist len).2.size = cache.size := by
  intro len
  induction len with
  | zero => rfl
  | succ len ih =>
    show (LLoop.insert c (LLoop.specCopy c d cache index dist len).2 _).size = cache.size
    rw [LLoop.insert_size, ih]

def isPanic : LLoop.Res → Bool
  | .panic _ => true
  | _ => false

theorem specRun_no_panic (c : LLoop.Cfg) : ∀ (ops : List LLoop.Op) (d : Array Nat) (index : Nat) (cache : Array Nat),
    (c.cacheBits ≠ 0 → cache.size = 2 ^ c.cacheBits) →
    (∀ k, LLoop.Op.cache k ∈ ops → k < 2 ^ c.cacheBits) →
    isPanic (LLoop.specRun c ops d index cache) = false := by
  intro ops
  induction ops with
  | nil => intro d index cache _ _; rw [LLoop.specRun]; split <;> rfl
  | cons op rest ih =>
    intro d index cache hsz hk
    have hk' : ∀ k, LLoop.Op.cache k ∈ rest → k < 2 ^ c.cacheBits := fun k hm => hk k (List.mem_cons_of_mem _ hm)
    cases op with
    | lit v =>
      rw [LLoop.specRun]
      split
      · rfl
      · exact ih _ _ _ (fun hb => by rw [LLoop.insert_size]; exact hsz hb) hk'
    | back len dist =>
      rw [LLoop.specRun]
      split
      · rfl
      · split
        · rfl
        · exact ih _ _ _ (fun hb => by rw [specCopy_cache_size]; exact hsz hb) hk'
    | cache k =>
      rw [LLoop.specRun]
      split
      · rfl
      · split
        · rfl
        · rename_i hb
          have hlt := hk k List.mem_cons_self
          rw [if_neg (by rw [hsz hb]; exact Nat.not_le.mpr hlt)]
          exact ih _ _ _ (fun hb' => by rw [LLoop.insert_size]; exact hsz hb') hk'

/-- **The pixel loop of `decode_image_data` has no failing index.**  For every image size, group
    layout, colour-cache size and every operation list an entropy decoder can produce (cache
    symbols below the cache size; single-symbol groups consistent), the model of the loop - the
    fast path's slice, the cache lookups, the three copy strategies - never reaches one of its
    out-of-range cases: it returns pixels, `BitStreamError`, or asks for more symbols. -/
theorem pixel_loop_never_panics (c : LLoop.Cfg) (h32 : c.cacheBits ≤ 32) (hw : 0 < c.width) (init : Array Nat)
    (ops : List LLoop.Op) (hinit : init.size = c.width * c.height)
    (hcons : LLoop.cons c (c.width * c.height + 1) 0 0 ops = true)
    (hk : ∀ k, LLoop.Op.cache k ∈ ops → k < 2 ^ c.cacheBits) :
    isPanic (LLoop.decode c init ops) = false := by
  rw [LLoop.decode_refines_any c init init ops hinit hinit hcons]
  unfold LLoop.specDecode
  apply specRun_no_panic c ops init 0 _ _ hk
  intro hb
  rw [Array.size_replicate, if_neg hb]

/-- **`read_symbol` never fails on a valid code while bits remain**: no `Empty` node, no index
    outside the table or the tree vector is ever reached (the model answers such an access with
    an error, which this theorem excludes) - for every valid length vector and every string of at
    least 15 bits -/
theorem huffman_read_never_fails (ls : List Nat) (hall : ∀ l ∈ ls, l ≤ 15) (hn : ls.length ≤ 5000)
    (hv : Prefix.validLengths ls = true) (bits : List Nat) (hb : ∀ b ∈ bits, b < 2) (hlen : 15 ≤ bits.length) :
    (Huff.readSym (Huff.build ls) bits).isSome = true := by
  rcases Huff.build_total ls hall hn hv with ⟨t, ht⟩ | ⟨s, hs⟩
  · obtain ⟨hgood, hnum, L, hL1, hL15, hmax, hend⟩ := Huff.build_good ls hall hn t ht
    rw [ht, Huff.readSym_good_all t ls hgood hall L hL1 hL15 hend bits hb]
    obtain ⟨s, rest, hdec⟩ := Prefix.decodeSym_total ls L hL1 hend 15 0 0 bits (by omega) (by omega) hb (by decide) (Nat.le_of_eq rfl)
    rw [hdec]; rfl
  · rw [hs]; rfl

end C03
