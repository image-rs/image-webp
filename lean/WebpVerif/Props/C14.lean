import WebpVerif.Lemmas.EncHuff
import WebpVerif.Lemmas.EncHuffCodes
import WebpVerif.Lemmas.EncHuffTree
import WebpVerif.Lemmas.EncHuffLimit
import WebpVerif.Lemmas.EncHuffDepth
import WebpVerif.Lemmas.CodeBits
import WebpVerif.Lemmas.HuffTotal
import WebpVerif.Props.C01

/-!
# C14 — encoder prefix codes are complete, length-limited and canonical for any histogram

`EncHuff.build` models `build_huffman_tree` (heap-based merge with std's tie-breaking, depth
walk, length limiting, canonical code assignment with the final `assert_eq!`).
-/
namespace C14
open EncHuff

def isSingle : Result → Bool | .single => true | _ => false
def outputOf : Result → Option (List Nat × List Nat) | .built l c => some (l.toList, c.toList) | _ => none

/-- fewer than two used symbols are signalled (the caller then writes a single-symbol code) -/
theorem lt2_signalled (freqs : List Nat) (limit : Nat) (h : (freqs.filter (· > 0)).length ≤ 1) :
    build freqs limit = .single := by
  unfold build; rw [if_pos h]

/-- two or more used symbols never yield `.single` -/
theorem ge2_not_single (freqs : List Nat) (limit : Nat) (h : 2 ≤ (freqs.filter (· > 0)).length) :
    isSingle (build freqs limit) = false := by
  unfold build; rw [if_neg (Nat.not_le_of_lt h)]
  cases limitLengths freqs (treeLengths freqs) limit with
  | none => rfl
  | some lengths =>
    simp only
    by_cases hf : (assignCodes lengths limit).2 ≠ 2 * 2 ^ limit
    · rw [if_pos hf]; rfl
    · rw [if_neg hf]; rfl

/-- **Kraft equality of the unlimited code**: the leaf depths of ANY binary tree — whatever
    the heap's tie-breaking produced — sum to exactly one: `Σ 2^(L − depth) = 2^L`. -/
theorem tree_kraft (t : Tree) (L : Nat) (h : ∀ p ∈ depths t 0, p.2 ≤ L) :
    kraftOf (depths t 0) L = 2 ^ L :=
  depths_kraft t 0 L h

/-- every symbol of a tree with at least two leaves gets a length ≥ 1 -/
theorem tree_lengths_pos (l r : Tree) : ∀ p ∈ depths (.node l r) 0, 1 ≤ p.2 := depths_pos l r

/-- the arithmetic of one iteration of the limiting loop: a leaf taken from level `i` and one from
    level `limit` weigh one more than the two leaves put at level `i + 1`, so `total -= 1` follows
    the scaled Kraft sum (`EncHuff.limitLoop_spec` concludes that the loop ends with equality) -/
theorem limit_move (limit i : Nat) (hi : i + 1 ≤ limit) :
    2 ^ (limit - i) + 2 ^ (limit - limit) = 2 * 2 ^ (limit - (i + 1)) + 1 :=
  move_lowers_by_one limit i hi

/-- **Final assert ⇔ Kraft equality**: for lengths within the limit, the value `code` that the
    closing `assert_eq!(code, 2 << length_limit)` tests is exactly twice the scaled Kraft sum; so
    the assert passes iff the lengths form a complete code -/
theorem final_assert_is_kraft (lengths : Array Nat) (limit : Nat) (h : ∀ l ∈ lengths.toList, l ≤ limit) :
    (assignCodes lengths limit).2 = 2 * Prefix.kraft lengths.toList limit ∧
    ((assignCodes lengths limit).2 = 2 * 2 ^ limit ↔ Prefix.kraft lengths.toList limit = 2 ^ limit) := by
  have e := final_eq_kraft lengths limit h
  exact ⟨e, by rw [e]; exact Nat.mul_left_cancel_iff (Nat.succ_pos 1)⟩

/-- **Canonical code words**: for lengths within the limit whose Kraft sum does not exceed the
    code space, every used symbol receives the lossless specification's canonical code word
    (`next_code[len]` + rank among equal lengths), bit-reversed for the LSB-first stream; all
    lengths and limits up to 16 -/
theorem codes_canonical (lengths : Array Nat) (limit : Nat) (hlim : limit ≤ 16)
    (hall : ∀ l ∈ lengths.toList, l ≤ limit) (hk : Prefix.kraft lengths.toList limit ≤ 2 ^ limit) :
    ∀ j, j < lengths.size → lengths[j]! ≠ 0 →
      some (assignCodes lengths limit).1[j]! =
        (Prefix.canonicalCode lengths.toList j).map (fun c => Prefix.reverseBits c lengths[j]!) :=
  assign_canonical lengths limit hlim hall hk

/-- **The code words are a prefix code a decoder reads back**: for lengths within the limit
    whose Kraft sum does not exceed the code space, the code word handed out for ANY used symbol
    `j`, taken in the order its bits enter the stream (LSB first) and followed by ANY
    continuation, is decoded by the specification's bit-by-bit canonical decoder to exactly `j`,
    consuming exactly that code word.  Rests on: canonical code words are prefix-free
    (`Prefix.prefix_free`: a symbol earlier in (length, index) order owns the code space strictly
    below the later one), and the bit-reversed word LSB first is the canonical word MSB first. -/
theorem codes_decodable (lengths : Array Nat) (limit : Nat) (hlim : limit ≤ 15)
    (hall : ∀ l ∈ lengths.toList, l ≤ limit) (hk : Prefix.kraft lengths.toList limit ≤ 2 ^ limit) :
    ∀ j, j < lengths.size → lengths[j]! ≠ 0 → ∀ rest : List Nat,
      Prefix.decodeSym lengths.toList 15 0 0
        (Prefix.lsbBits (assignCodes lengths limit).1[j]! lengths[j]! ++ rest) = some (j, rest) := by
  intro j hj hne rest
  obtain ⟨hc, hlt, hle⟩ := canonical_eq lengths limit hall hk j hj hne
  have hcan := codes_canonical lengths limit (Nat.le_succ_of_le hlim) hall hk j hj hne
  rw [hc, Option.map_some] at hcan
  have hgd := toList_getD lengths j
  have hfin := Prefix.decodeSym_reversed lengths.toList j _ 15 hc (by rw [hgd]; exact hlt) (by rw [hgd]; exact Nat.le_trans hle hlim) rest
  rw [Option.some.inj hcan]
  rwa [hgd] at hfin

-- on the lengths `build [5, 0, 3, 1, 1] 15` returns (last examples of this file): symbol 3, length 3,
-- code word 011 reversed = 110b
example : Prefix.decodeSym [1, 0, 2, 3, 3] 15 0 0 (Prefix.lsbBits 3 3 ++ [1, 0, 1]) = some (3, [1, 0, 1]) := by decide

theorem kk_above (ls : List Nat) (L : Nat) (hall : ∀ l ∈ ls, l ≤ L) : ∀ d, kk ls (L + d) = kk ls L * 2 ^ d :=
  EncHuff.kk_above ls L hall

/-- **The decoder of this crate reads the encoder's code words.**  For lengths within the limit
    that form a complete code with at least two used symbols (what `build_huffman_tree` returns,
    `full_upto_256`), the model of `HuffmanTree` (C01: `build_implicit` + `read_symbol`) built
    from those lengths reads the code word handed out for ANY used symbol `j`, followed by any
    bits, as exactly `j`, consuming exactly that word. -/
theorem codes_read_by_huffman_tree (lengths : Array Nat) (limit : Nat) (hlim : limit ≤ 15)
    (hall : ∀ l ∈ lengths.toList, l ≤ limit) (hk : Prefix.kraft lengths.toList limit = 2 ^ limit)
    (h2 : 2 ≤ (lengths.toList.filter (· ≠ 0)).length) (hn : lengths.size ≤ 5000) :
    ∀ j, j < lengths.size → lengths[j]! ≠ 0 → ∀ rest : List Nat, (∀ b ∈ rest, b < 2) →
      Huff.readSym (Huff.build lengths.toList) (Prefix.lsbBits (assignCodes lengths limit).1[j]! lengths[j]! ++ rest) =
        some (j, rest) := by
  intro j hj hne rest hrest
  have hall15 : ∀ l ∈ lengths.toList, l ≤ 15 := fun l hl => Nat.le_trans (hall l hl) hlim
  have hk15 := kraft_complete_above lengths.toList limit 15 hall hlim hk
  have hv : Prefix.validLengths lengths.toList = true := by
    unfold Prefix.validLengths
    have a1 : lengths.toList.all (· ≤ 15) = true := by rw [List.all_eq_true]; exact fun l hl => decide_eq_true (hall15 l hl)
    have a2 : ((lengths.toList.filter (· ≠ 0)).length == 1) = false := by rw [beq_eq_false_iff_ne]; exact Nat.ne_of_gt h2
    have a3 : decide ((lengths.toList.filter (· ≠ 0)).length ≥ 2) = true := decide_eq_true h2
    rw [a1, a2, a3, hk15]; rfl
  have hbits : ∀ b ∈ Prefix.lsbBits (assignCodes lengths limit).1[j]! lengths[j]! ++ rest, b < 2 := by
    intro b hb
    rcases List.mem_append.mp hb with h | h
    · unfold Prefix.lsbBits at h
      obtain ⟨i, _, rfl⟩ := List.mem_map.mp h
      exact Nat.mod_lt _ (by decide)
    · exact hrest b h
  have hspec := (C01.huffman_tree_is_spec lengths.toList hall15 hn).2 hv _ hbits
  rw [hspec]
  unfold Prefix.decodeSymbol
  rw [if_neg (Nat.ne_of_gt h2)]
  exact codes_decodable lengths limit hlim hall (by rw [hk]) j hj hne rest

/-- **The property for every histogram with at most 256 used symbols whose Huffman tree needs no
    limiting** (the common case: depth within the limit): `build_huffman_tree` - std's heap with whatever tie-breaking, the
    merge loop, the depth walk, the code assignment, the closing assert - returns lengths that are
    0 exactly for the unused symbols and within 1..limit for the used ones, satisfy the Kraft
    equality, and carry the specification's canonical bit-reversed code words.  Proved through:
    every heap operation is a permutation; the merge loop ends with one tree over exactly the used
    symbols; the depth walk; Kraft equality of any tree; phase 4. -/
theorem full_when_no_limiting (freqs : List Nat) (limit : Nat) (hlim : limit ≤ 16)
    (h2 : 2 ≤ (freqs.filter (· > 0)).length) (h256 : (freqs.filter (· > 0)).length ≤ 256)
    (hmax : (treeLengths freqs).foldl max 0 ≤ limit) :
    ∃ lengths codes, build freqs limit = .built lengths codes ∧ lengths.size = freqs.length ∧
      (∀ i, i < freqs.length → (freqs[i]! = 0 → lengths[i]! = 0) ∧ (freqs[i]! > 0 → 1 ≤ lengths[i]! ∧ lengths[i]! ≤ limit)) ∧
      Prefix.kraft lengths.toList limit = 2 ^ limit ∧
      (∀ i, i < freqs.length → lengths[i]! ≠ 0 →
        some codes[i]! = (Prefix.canonicalCode lengths.toList i).map fun c => Prefix.reverseBits c lengths[i]!) :=
  by
    rw [← used_count] at h2 h256
    obtain ⟨t, hperm, hL⟩ := treeLengths_upto_256 freqs (Nat.le_of_succ_le h2) h256
    exact build_unlimited freqs limit hlim h2 t hperm hL hmax

-- the hypotheses are satisfiable: a concrete histogram
example : 2 ≤ ([5, 0, 3, 1, 1].filter (· > 0)).length ∧ ([5, 0, 3, 1, 1].filter (· > 0)).length ≤ 256 ∧
    (treeLengths [5, 0, 3, 1, 1]).foldl max 0 ≤ 15 := by decide +kernel

/-- **The property for every histogram with at most 256 used symbols** - both without and with
    length limiting: for every frequency vector (any alphabet size within the code space, any
    limit 1..15) with 2..256 used symbols, `build_huffman_tree` returns lengths that are 0 exactly
    for the unused symbols, within 1..limit for the used ones, satisfy the Kraft equality, and
    carry the specification's canonical bit-reversed code words; no index underflow in the limiting
    loop or the reassignment, and the closing assert passes.  Proof: heap operations are
    permutations (so the result does not depend on std's tie-breaking); the merge loop ends with one
    tree over exactly the used symbols; clipping a tree's depths at the limit exceeds the code
    space by at most the number of leaves at the limit level; each limiting move lowers the excess by
    one and keeps that bound, so `counts[limit]` never underflows and an occupied level below the limit
    always exists; the reassignment hands out exactly the level counts; phase 4. -/
theorem full_upto_256 (freqs : List Nat) (limit : Nat) (h1 : 1 ≤ limit) (h15 : limit ≤ 15)
    (h2 : 2 ≤ (freqs.filter (· > 0)).length) (h256 : (freqs.filter (· > 0)).length ≤ 256)
    (hspace : freqs.length ≤ 2 ^ limit) :
    ∃ lengths codes, build freqs limit = .built lengths codes ∧ lengths.size = freqs.length ∧
      (∀ i, i < freqs.length → (freqs[i]! = 0 → lengths[i]! = 0) ∧ (freqs[i]! > 0 → 1 ≤ lengths[i]! ∧ lengths[i]! ≤ limit)) ∧
      Prefix.kraft lengths.toList limit = 2 ^ limit ∧
      (∀ i, i < freqs.length → lengths[i]! ≠ 0 →
        some codes[i]! = (Prefix.canonicalCode lengths.toList i).map fun c => Prefix.reverseBits c lengths[i]!) :=
  by
    rw [← used_count] at h2 h256
    obtain ⟨t, hperm, hL⟩ := treeLengths_upto_256 freqs (Nat.le_of_succ_le h2) h256
    exact build_of_tree freqs limit h1 h15 h2 hspace t hperm hL

-- the limiting case is exercised: a Fibonacci histogram at limit 3
example : (treeLengths [1, 1, 2, 3, 5, 8, 13, 21]).foldl max 0 > 3 ∧ [1, 1, 2, 3, 5, 8, 13, 21].length ≤ 2 ^ 3 := by decide +kernel

/-- **The property at full strength**: for EVERY frequency vector whose frequencies sum to less
    than 2^32 (they are pixel counts of an image of at most 2^28 pixels), any alphabet size within
    the code space and any limit 1..15, with two or more used symbols - no bound on their number.
    Beyond `full_upto_256` this needs the `depth as u8` cast of the depth walk to be exact, i.e. the
    tree to be shallower than 256: std's `BinaryHeap` (transcribed: `rebuild`, `pop` =
    `sift_down_to_bottom` + `sift_up`, the `PeekMut` replacement = `sift_down`) keeps the heap
    order, so the merge loop always merges two items of least frequency; then every node weighs at
    least as much as the children of its sibling, the weight grows like the Fibonacci numbers
    along every path, and a total below 2^32 allows depth 46 at most. -/
theorem full (freqs : List Nat) (limit : Nat) (hspace : freqs.length ≤ 2 ^ limit) (h15 : limit ≤ 15) (h1 : 1 ≤ limit)
    (hsum : freqs.sum < 2 ^ 32) (h2 : 2 ≤ (freqs.filter (· > 0)).length) :
    ∃ lengths codes, build freqs limit = .built lengths codes ∧ lengths.size = freqs.length ∧
      (∀ i, i < freqs.length → (freqs[i]! = 0 → lengths[i]! = 0) ∧ (freqs[i]! > 0 → 1 ≤ lengths[i]! ∧ lengths[i]! ≤ limit)) ∧
      Prefix.kraft lengths.toList limit = 2 ^ limit ∧
      (∀ i, i < freqs.length → lengths[i]! ≠ 0 →
        some codes[i]! = (Prefix.canonicalCode lengths.toList i).map fun c => Prefix.reverseBits c lengths[i]!) :=
  build_full_all freqs limit h1 h15 h2 hsum hspace

/-- `pop` returns an item of least frequency and leaves a heap -/
theorem heap_pops_minimum (h : Heap) (a : Item) (h' : Heap) (mh : MinHeap h) (hp : pop h = some (a, h')) :
    MinHeap h' ∧ ∀ j, j < h.size → a.freq ≤ fq h j :=
  pop_heap h a h' mh hp

-- concrete histograms through the model, limit not reached / reached; the Kraft sum of a three-leaf tree
example : outputOf (build [5, 0, 3, 1, 1] 15) = some ([1, 0, 2, 3, 3], [0, 0, 1, 3, 7]) := by decide +kernel
example : (outputOf (build [1, 1, 2, 3, 5, 8, 13, 21] 3)).map (·.1) = some [3, 3, 3, 3, 3, 3, 3, 3] := by decide +kernel
example : kraftOf (depths (.node (.leaf 0) (.node (.leaf 1) (.leaf 2))) 0) 2 = 2 ^ 2 := by decide

end C14
