import WebpVerif.Model.Vp8Coef
import WebpVerif.Lemmas.Arith
import WebpVerif.Lemmas.ArithRfc
import WebpVerif.Spec.BoolDec
import WebpVerif.Gen.Tables

/-!
# C15 — the boolean entropy decoder returns the RFC 6386 bit sequence on every path

`Arith` models `vp8_arithmetic_decoder.rs` (4-byte chunk loads, speculative fast path with
rollback, cold path with the 0..3 trailing bytes and one byte of zero padding).
`BoolDec` is the RFC 6386 §7.3 decoder.

Proved here, for every decoder state / byte string / request:
* path independence: each public read equals the cold (fallback) path, whether or not the
  speculative path commits — so the optimisation is unobservable;
* the register invariant (`128 ≤ range ≤ 255`, `−8 ≤ bit_count ≤ 31`) holds initially and after
  every read (that `bit_count` is non-negative when a decision shifts by it is `Arith.load_wf`);
* flags are `read_bool(128)`;
* exhaustion is sticky and leaves the decoder untouched.
The refinement to `BoolDec` itself (`refines_rfc_full`) is proved (`refines_rfc`): both decoders
are finite-precision views of one ideal decoder (Lemmas/ArithRfc.lean).
-/
namespace C15
open Arith

theorem flag_is_bool128 (r : Nat) (h : 1 ≤ r) : r - r / 2 = splitOf r 128 ∧ r - splitOf r 128 = r / 2 :=
  flag_split r h

theorem init_well_formed (data : List Nat) : WF (init data) := init_wf data

/-- `read_bool` = cold path, on every state -/
theorem read_bool_path_independent (d : Dec) (p : Nat) (hp : p < 256) (h : WF d) :
    readBool d p = coldReadBit d p :=
  readBool_cold d p hp h.1

/-- `read_flag` = cold path = `read_bool(128)` -/
theorem read_flag_path_independent (d : Dec) (h : WF d) : readFlag d = coldReadBit d 128 :=
  readFlag_cold d h.1

theorem read_literal_path_independent (d : Dec) (n : Nat) (h : WF d) :
    readLiteral d n = coldReadLiteral n d 0 :=
  readLiteral_cold d n h.1

theorem read_signed_path_independent (d : Dec) (n : Nat) (h : WF d) :
    readOptionalSigned d n = coldReadSigned d n :=
  readSigned_cold d n h.1

/-- tree-coded reads: if the speculative walk finishes, the public result is the cold walk's -/
theorem read_tree_path_independent (d : Dec) (tree : Array Node)
    (hall : ∀ (k : Nat) (nd : Node), tree[k]? = some nd → nd.prob < 256) (h : WF d)
    (first : Node) (hfirst : tree[0]? = some first) (r : Nat × State)
    (hfast : fastReadTree d.chunks tree (tree.size + 1) d.state first = some r) :
    readWithTree d tree = coldReadTree tree (tree.size + 1) d 0 :=
  readTreeFrom_cold d tree hall h.1 0 first hfirst r hfast

/-- `read_with_tree_with_first_node` (the coefficient-token reads of vp8.rs enter the token tree at
    node 1 after a zero token): the same path independence from EVERY start node -/
theorem read_tree_from_node_path_independent (d : Dec) (tree : Array Node)
    (hall : ∀ (k : Nat) (nd : Node), tree[k]? = some nd → nd.prob < 256) (h : WF d)
    (start : Nat) (first : Node) (hfirst : tree[start]? = some first) (r : Nat × State)
    (hfast : fastReadTree d.chunks tree (tree.size + 1) d.state first = some r) :
    Vp8Coef.readTreeFrom d tree start = coldReadTree tree (tree.size + 1) d start :=
  readTreeFrom_cold d tree hall h.1 start first hfirst r hfast

/-- every public read keeps the decoder well-formed -/
theorem read_bool_wf (d : Dec) (p : Nat) (hp : p < 256) (h : WF d) : WF (readBool d p).2 := by
  rw [read_bool_path_independent d p hp h]; exact coldReadBit_wf d p hp h

theorem read_flag_wf (d : Dec) (h : WF d) : WF (readFlag d).2 := by
  rw [read_flag_path_independent d h]; exact coldReadBit_wf d 128 (by omega) h

theorem cold_literal_wf (n : Nat) (d : Dec) (v : Nat) (h : WF d) : WF (coldReadLiteral n d v).2 := by
  induction n generalizing d v with
  | zero => exact h
  | succ n ih => unfold coldReadLiteral; exact ih _ _ (coldReadBit_wf d 128 (by omega) h)

theorem read_literal_wf (d : Dec) (n : Nat) (h : WF d) : WF (readLiteral d n).2 := by
  rw [read_literal_path_independent d n h]; exact cold_literal_wf n d 0 h

theorem read_signed_wf (d : Dec) (n : Nat) (h : WF d) : WF (readOptionalSigned d n).2 := by
  rw [read_signed_path_independent d n h]
  unfold coldReadSigned
  have h1 := coldReadBit_wf d 128 (by omega) h
  simp only
  by_cases hf : (!(coldReadBit d 128).1) = true
  · rw [if_pos hf]; exact h1
  · rw [if_neg hf]; exact coldReadBit_wf _ 128 (by omega) (cold_literal_wf n _ 0 h1)

/-- exhaustion is sticky and side-effect free -/
theorem exhaustion_sticky (d : Dec) (p : Nat) (hp : p < 256) (h : WF d) (he : isPastEof d = true) :
    readBool d p = (false, d) := by
  rw [read_bool_path_independent d p hp h]
  exact eof_sticky d p h ((isPastEof_iff d).mp he)

/-- the four mode trees (luma, chroma, segment id, sub-block modes) with their fixed probability
    tables have byte probabilities and valid shape: every branch target is either a node index or
    a leaf (≥ 128) -/
theorem crate_trees_ok :
    (∀ nd ∈ treeNodesFrom Gen.Tables.KEYFRAME_YMODE_TREE Gen.Tables.KEYFRAME_YMODE_PROBS, nd.prob < 256 ∧ (nd.left < 4 ∨ 128 ≤ nd.left) ∧ (nd.right < 4 ∨ 128 ≤ nd.right)) ∧
    (∀ nd ∈ treeNodesFrom Gen.Tables.KEYFRAME_UV_MODE_TREE Gen.Tables.KEYFRAME_UV_MODE_PROBS, nd.prob < 256 ∧ (nd.left < 3 ∨ 128 ≤ nd.left) ∧ (nd.right < 3 ∨ 128 ≤ nd.right)) ∧
    (∀ nd ∈ treeNodesFrom Gen.Tables.SEGMENT_ID_TREE [255, 255, 255], nd.prob < 256 ∧ (nd.left < 3 ∨ 128 ≤ nd.left) ∧ (nd.right < 3 ∨ 128 ≤ nd.right)) ∧
    (∀ ps ∈ Gen.Tables.KEYFRAME_BPRED_MODE_PROBS, ∀ qs ∈ ps,
      ∀ nd ∈ treeNodesFrom Gen.Tables.KEYFRAME_BPRED_MODE_TREE qs, nd.prob < 256 ∧ (nd.left < 9 ∨ 128 ≤ nd.left) ∧ (nd.right < 9 ∨ 128 ≤ nd.right)) := by
  decide +kernel

def toSpec : Arith.Req → BoolDec.Req
  | .bool p => .bool p | .flag => .flag | .literal n => .literal n | .signed n => .signed n
  | .tree t ps => .tree t ps

/-- the five tree shapes of the decoder: key-frame luma modes, chroma modes, segment ids, sub-block
    modes and DCT tokens -/
def crateTrees : List (List Int) :=
  [Gen.Tables.KEYFRAME_YMODE_TREE, Gen.Tables.KEYFRAME_UV_MODE_TREE, Gen.Tables.SEGMENT_ID_TREE,
   Gen.Tables.KEYFRAME_BPRED_MODE_TREE, Gen.Tables.DCT_TOKEN_TREE]

/-- the requests the theorem quantifies over: any probability for single bits, literals and
    signed values of up to 8 bits, and each of the decoder's five tree shapes with ANY node
    probabilities (the fixed tables of the mode trees and every value the per-frame probability
    updates of the token tree can produce) -/
def ReqOk : Arith.Req → Prop
  | .bool p => p < 256 | .flag => True | .literal n => n ≤ 8 | .signed n => n ≤ 8
  | .tree t ps => t ∈ crateTrees ∧ ps.length = t.length / 2 ∧ ∀ p ∈ ps, p < 256

/-- The property at full strength (proved below as `refines_rfc`): on every byte string whose
    first byte is not 0xFF and every request program, the model's answers equal the RFC decoder's
    until exhaustion, and exhaustion is reported after the same request. -/
def refines_rfc_full : Prop :=
  ∀ (data : List Nat) (reqs : List Arith.Req),
    (∀ b ∈ data, b < 256) → data.head? ≠ some 255 → (∀ r ∈ reqs, ReqOk r) →
    BoolDec.agreeUntilExhausted (Arith.run (Arith.init data) reqs)
      (BoolDec.run (BoolDec.init data) (reqs.map toSpec)) = true

/-- the structural part of `treeGood` (everything but the probabilities) -/
def shapeGood (t : List Int) : Bool :=
  t.length % 2 == 0 && decide (t.length / 2 ≤ 128) && decide (0 < t.length) &&
  (List.range t.length).all (fun i => ArithRfc.entryGood t.length i (t.getD i 0))

theorem crate_shapes_good : ∀ t ∈ crateTrees, shapeGood t = true := by decide +kernel

/-- the decoder's five tree shapes have, with any node probabilities, the RFC shape the walk
    lemmas need -/
theorem reqok_tree_good (t : List Int) (ps : List Nat) (h : ReqOk (.tree t ps)) : ArithRfc.treeGood t ps = true := by
  obtain ⟨ht, hl, hp⟩ := h
  have hs := crate_shapes_good t ht
  unfold shapeGood at hs
  unfold ArithRfc.treeGood
  simp only [Bool.and_eq_true, beq_iff_eq, decide_eq_true_eq, List.all_eq_true] at hs ⊢
  obtain ⟨⟨⟨h1, h2⟩, h3⟩, h4⟩ := hs
  exact ⟨⟨⟨⟨⟨h1, by omega⟩, h2⟩, h3⟩, h4⟩, fun p hpp => by simpa using hp p hpp⟩

open ArithRfc in
theorem step_sim (data : List Nat) (hb : ∀ b ∈ data, b < 256) (r : Arith.Req) (hok : ReqOk r)
    (d : Dec) (s : BoolDec.St) (h : Sim data d s) :
    ∃ v d' v' s', Arith.step d r = some (v, d') ∧ BoolDec.step s (toSpec r) = some (v', s') ∧ Sim data d' s' ∧
      (isPastEof d' = false → v = v') := by
  have hwf : WF d := h.2.1
  cases r with
  | bool p =>
    obtain ⟨a, b, _⟩ := sim_bit data hb d s p hok h
    rw [← read_bool_path_independent d p hok hwf] at a b
    exact ⟨_, (readBool d p).2, _, (BoolDec.readBool s p).2, rfl, rfl, a,
      fun he => congrArg (fun b : Bool => (b.toNat : Int)) (b he).2⟩
  | flag =>
    obtain ⟨a, b, _⟩ := sim_bit data hb d s 128 (by decide) h
    rw [← read_flag_path_independent d hwf] at a b
    exact ⟨_, (readFlag d).2, _, (BoolDec.readBool s 128).2, rfl, rfl, a,
      fun he => congrArg (fun b : Bool => (b.toNat : Int)) (b he).2⟩
  | literal n =>
    obtain ⟨a, b⟩ := sim_literal data hb n d s 0 0 0 h (by decide) (Nat.add_zero n ▸ hok) (fun _ => rfl)
    rw [← read_literal_path_independent d n hwf] at a b
    exact ⟨_, _, _, _, rfl, rfl, a, fun he => congrArg (fun v : Nat => (v : Int)) (b he).2⟩
  | signed n =>
    obtain ⟨a, b⟩ := sim_signed data hb n hok d s h
    rw [← read_signed_path_independent d n hwf] at a b
    exact ⟨_, (readOptionalSigned d n).2, _, (BoolDec.readSigned s n).2, rfl, rfl, a, b⟩
  | tree t ps =>
    have f := treeFacts t ps (reqok_tree_good t ps hok)
    obtain ⟨v, d', v', s', e1, e2, e3, e4⟩ := tree_sim t ps f data hb ((nodesOf t ps).size + 1) (t.length + 1) 0 d s
      (Nat.le_trans (Nat.le_of_eq f.size.symm) (Nat.le_succ _)) (Nat.le_succ_of_le (Nat.div_le_self _ _)) f.pos h
    rw [← readTreeFrom_good t ps f d hwf 0 f.pos] at e1
    exact ⟨v, d', v', s', congrArg (Option.map _) e1, congrArg (Option.map _) e2, e3, fun he => congrArg _ (e4 he)⟩

open ArithRfc in
theorem run_sim (data : List Nat) (hb : ∀ b ∈ data, b < 256) (reqs : List Arith.Req) :
    ∀ (d : Dec) (s : BoolDec.St), Sim data d s → (∀ r ∈ reqs, ReqOk r) →
      BoolDec.agreeUntilExhausted (Arith.run d reqs) (BoolDec.run s (reqs.map toSpec)) = true := by
  induction reqs with
  | nil => intro d s _ _; rfl
  | cons r rs ih =>
    intro d s h hall
    have hok := hall r (List.mem_cons_self ..)
    obtain ⟨v, d', v', s', e1, e2, hs, hv⟩ := step_sim data hb r hok d s h
    have hfl := sim_exhausted data d' s' hs
    simp only [List.map_cons, Arith.run, BoolDec.run, e1, e2, BoolDec.agreeUntilExhausted]
    rw [← hfl]
    cases he : isPastEof d' with
    | true => simp
    | false =>
      simp only [Bool.or_self, Bool.false_eq_true, if_false, Bool.and_eq_true, beq_iff_eq]
      exact ⟨hv he, ih d' s' hs (fun r hr => hall r (List.mem_cons_of_mem _ hr))⟩

/-- **Coefficient-token reads.**  `read_with_tree_with_first_node` on the DCT token tree with ANY
    node probabilities, entered at the root or - after a zero token, where an end-of-block is
    impossible - at node 1 (tree index 2, as RFC 6386 section 13.2 prescribes): the value and the
    decoder state it leaves simulate the RFC's `treed_read` from that index, on every path (speculative
    or fallback) and up to exhaustion -/
theorem token_read_refines_rfc (data : List Nat) (hb : ∀ b ∈ data, b < 256) (ps : List Nat) (hl : ps.length = 11)
    (hp : ∀ p ∈ ps, p < 256) (start : Nat) (hs : start < 11) (d : Dec) (s : BoolDec.St) (h : ArithRfc.Sim data d s) :
    ∃ v d' v' s', Vp8Coef.readTreeFrom d (ArithRfc.nodesOf Gen.Tables.DCT_TOKEN_TREE ps) start = some (v, d') ∧
      BoolDec.readTree Gen.Tables.DCT_TOKEN_TREE ps 12 s (2 * start) = some (v', s') ∧ ArithRfc.Sim data d' s' ∧
      (isPastEof d' = false → v = v') := by
  have f := ArithRfc.treeFacts _ _ (reqok_tree_good Gen.Tables.DCT_TOKEN_TREE ps ⟨by decide, by rw [hl]; decide, hp⟩)
  have hlen : Gen.Tables.DCT_TOKEN_TREE.length / 2 = 11 := by decide
  have hsz : (ArithRfc.nodesOf Gen.Tables.DCT_TOKEN_TREE ps).size = 11 := by rw [f.size, hlen]
  rw [ArithRfc.readTreeFrom_good _ ps f d h.2.1 start (hlen ▸ hs), hsz]
  exact ArithRfc.tree_sim _ _ f data hb 12 12 start d s (by omega) (by omega) (hlen ▸ hs) h

/-- **Refinement to RFC 6386 section 7.3 (the property at full strength).** For every byte
    string whose first byte is not 0xFF and every program of requests - booleans with any byte
    probability, flags, literals and optional signed values of up to 8 bits, and reads with each
    of the decoder's five tree shapes under any byte probabilities - the crate's decoder
    (chunked 64-bit register, speculative fast path with rollback, cold path, trailing bytes, one
    tolerated pad byte) returns exactly the values of the RFC's decoder after every request until
    the data is exhausted, and reports exhaustion after exactly the request at which the RFC
    decoder's decisions first depend on more than one byte past the end. -/
theorem refines_rfc : refines_rfc_full := by
  intro data reqs hb h255 hok
  exact run_sim data hb reqs _ _ (ArithRfc.sim_init data hb h255) hok

-- non-vacuity / regression: the crate's own unit-test vectors, through model and specification
example : (Arith.run (Arith.init [0x68, 0x65, 0x6c]) [.flag, .bool 10, .bool 250, .literal 1, .literal 3, .literal 8, .literal 8]).map (·.1)
    = [0, 1, 0, 1, 5, 64, 185] := by decide
example : (BoolDec.run (BoolDec.init [0x68, 0x65, 0x6c]) [.flag, .bool 10, .bool 250, .literal 1, .literal 3, .literal 8, .literal 8]).map (·.1)
    = [0, 1, 0, 1, 5, 64, 185] := by decide
example : WF (Arith.init [0x68, 0x65, 0x6c, 0x6c, 0x6f]) := init_wf _

end C15
