import WebpVerif.Lemmas.Riff

/-!
# C09 — encoder output is a well-formed container carrying the supplied metadata

`EncContainer.encode` models `WebPEncoder::encode` after `encode_frame` (the sequence of
`write_all` calls, concatenated); `Riff.demux` is the container grammar as a demultiplexer.
For every VP8L payload, every ICC/EXIF/XMP payload (empty = not supplied), every legal size and
both colour kinds — under the single hypothesis `Small` that the payload lengths sum to less than
2^32 − 100, which keeps the file below the format's 4 GiB limit — the output demultiplexes to
exactly the expected chunk list.
-/
namespace C09
open EncContainer Riff

/-- the chunk list the container specification requires: VP8X, ICCP, image, EXIF, XMP -/
def expectedChunks (frame icc exif xmp : List Nat) (w h : Nat) (alphaColor : Bool) : List (List Nat × List Nat) :=
  if icc.isEmpty && exif.isEmpty && xmp.isEmpty then [(fourcc "VP8L", frame)]
  else
    [(fourcc "VP8X", vp8xPayload icc exif xmp w h alphaColor)]
      ++ (if !icc.isEmpty then [(fourcc "ICCP", icc)] else [])
      ++ [(fourcc "VP8L", frame)]
      ++ (if !exif.isEmpty then [(fourcc "EXIF", exif)] else [])
      ++ (if !xmp.isEmpty then [(fourcc "XMP ", xmp)] else [])

/-- 100 is a round margin: the RIFF size field counts at most 58 bytes besides the payloads (4 for
    `WEBP`, 18 for the VP8X chunk, a header of 8 and a padding byte for each of the four chunks), the
    file 8 more -/
def Small (frame icc exif xmp : List Nat) : Prop :=
  frame.length + icc.length + exif.length + xmp.length + 100 < 2 ^ 32

theorem chunkSize_small (n : Nat) (h : n + 1 < 2 ^ 32) : chunkSize n = n + n % 2 + 8 := by
  unfold chunkSize
  split
  · next h1 => rw [Nat.mod_eq_of_lt h, h1]
  · next h1 => rw [Nat.mod_eq_of_lt (Nat.lt_of_succ_lt h), Nat.mod_two_ne_one.mp h1]

private theorem small_each (frame icc exif xmp : List Nat) (hs : Small frame icc exif xmp) :
    frame.length + 1 < 2 ^ 32 ∧ icc.length + 1 < 2 ^ 32 ∧ exif.length + 1 < 2 ^ 32 ∧ xmp.length + 1 < 2 ^ 32 := by
  unfold Small at hs; omega

theorem expected_ok (frame icc exif xmp : List Nat) (w h : Nat) (a : Bool) (hs : Small frame icc exif xmp) :
    ∀ c ∈ expectedChunks frame icc exif xmp w h a, ChunkOk c := by
  obtain ⟨b1, b2, b3, b4⟩ := small_each frame icc exif xmp hs
  intro c hc
  unfold expectedChunks at hc
  by_cases h0 : (icc.isEmpty && exif.isEmpty && xmp.isEmpty) = true
  · rw [if_pos h0, List.mem_singleton] at hc; subst hc; exact ⟨rfl, b1⟩
  · rw [if_neg h0] at hc
    simp only [List.mem_append, List.mem_singleton, List.mem_ite_nil_right] at hc
    rcases hc with (((rfl | ⟨_, rfl⟩) | rfl) | ⟨_, rfl⟩) | ⟨_, rfl⟩
    · exact ⟨rfl, show 10 + 1 < 2 ^ 32 by decide⟩
    · exact ⟨rfl, b2⟩
    · exact ⟨rfl, b1⟩
    · exact ⟨rfl, b3⟩
    · exact ⟨rfl, b4⟩

/-- total of the `chunk_size`s, as the encoder adds them up -/
def totalOf (frame icc exif xmp : List Nat) : Nat :=
  if icc.isEmpty && exif.isEmpty && xmp.isEmpty then chunkSize frame.length + 4
  else 22 + chunkSize frame.length
      + (if !icc.isEmpty then chunkSize icc.length else 0)
      + (if !exif.isEmpty then chunkSize exif.length else 0)
      + (if !xmp.isEmpty then chunkSize xmp.length else 0)

/-- layout: header, then exactly the expected chunks, each as `write_chunk` prints it -/
theorem encode_layout (frame icc exif xmp : List Nat) (w h : Nat) (a : Bool) :
    encode frame icc exif xmp w h a =
      ascii "RIFF" ++ (le32 (totalOf frame icc exif xmp % 2 ^ 32) ++ (ascii "WEBP" ++
        (expectedChunks frame icc exif xmp w h a).flatMap (fun c => chunkBytes c.1 c.2))) := by
  unfold encode encodeWrites expectedChunks totalOf
  -- list bookkeeping; `fourcc` and `ascii` are the same function, so what is left holds by `rfl`
  by_cases h0 : (icc.isEmpty && exif.isEmpty && xmp.isEmpty) = true
  · rw [if_pos h0, if_pos h0, if_pos h0]
    simp only [List.cons_append, List.nil_append, List.flatten_cons, List.flatMap_cons, List.flatMap_nil,
      List.append_nil, chunkBytes]
    rfl
  · rw [if_neg h0, if_neg h0, if_neg h0]
    simp only [List.flatten_append, flatten_opt, List.flatMap_append, List.flatten_cons, List.flatten_nil,
      List.flatMap_cons, List.flatMap_nil, List.append_nil, List.append_assoc, chunkBytes]
    rfl

/-- the RIFF size field counts everything after itself, and fits its 32 bits -/
private theorem totalOf_eq (frame icc exif xmp : List Nat) (w h : Nat) (a : Bool) (hs : Small frame icc exif xmp) :
    totalOf frame icc exif xmp =
      ((expectedChunks frame icc exif xmp w h a).flatMap (fun c => chunkBytes c.1 c.2)).length + 4 ∧
    totalOf frame icc exif xmp < 2 ^ 32 := by
  rw [length_flatMap _ (expected_ok frame icc exif xmp w h a hs)]
  obtain ⟨b1, b2, b3, b4⟩ := small_each frame icc exif xmp hs
  unfold Small at hs
  unfold expectedChunks totalOf
  rw [chunkSize_small _ b1, chunkSize_small _ b2, chunkSize_small _ b3, chunkSize_small _ b4]
  by_cases h0 : (icc.isEmpty && exif.isEmpty && xmp.isEmpty) = true
  · rw [if_pos h0, if_pos h0]
    exact ⟨rfl, by omega⟩
  · rw [if_neg h0, if_neg h0]
    simp only [List.map_append, List.sum_append, sum_opt, List.map_cons, List.map_nil, List.sum_cons, List.sum_nil, vp8x_length]
    have := opt_le (!icc.isEmpty) (icc.length + icc.length % 2 + 8)
    have := opt_le (!exif.isEmpty) (exif.length + exif.length % 2 + 8)
    have := opt_le (!xmp.isEmpty) (xmp.length + xmp.length % 2 + 8)
    omega

/-- **RIFF size = file length − 8**, and the file demultiplexes to the expected chunk list:
    every supplied payload comes back byte for byte, in the order VP8X, ICCP, VP8L, EXIF, XMP -/
theorem demux_encode (frame icc exif xmp : List Nat) (w h : Nat) (a : Bool)
    (hs : Small frame icc exif xmp) :
    demux (encode frame icc exif xmp w h a) =
      some { riffSize := (encode frame icc exif xmp w h a).length - 8,
             chunks := expectedChunks frame icc exif xmp w h a } := by
  obtain ⟨htot, h32⟩ := totalOf_eq frame icc exif xmp w h a hs
  rw [encode_layout, Nat.mod_eq_of_lt h32, riff_length _ _ htot, Nat.add_sub_cancel, demux_chunks _ (expected_ok frame icc exif xmp w h a hs) _ htot h32]

/-- every chunk is padded to an even length -/
theorem chunks_even (name data : List Nat) (hn : name.length = 4) : (chunkBytes name data).length % 2 = 0 := by
  rw [chunkBytes_length name data hn]
  omega

/-- VP8X flags: bit 2 ⇔ XMP, bit 3 ⇔ EXIF, bit 4 ⇔ alpha colour type, bit 5 ⇔ ICC; nothing else -/
theorem flags_exact (icc exif xmp : List Nat) (a : Bool) :
    let f := flagsOf icc exif xmp a
    (f / 4 % 2 = 1 ↔ xmp ≠ []) ∧ (f / 8 % 2 = 1 ↔ exif ≠ []) ∧ (f / 16 % 2 = 1 ↔ a = true) ∧
    (f / 32 % 2 = 1 ↔ icc ≠ []) ∧ f % 4 = 0 ∧ f < 64 := by
  unfold flagsOf
  cases icc <;> cases exif <;> cases xmp <;> cases a <;> simp

/-- the canvas size written in the VP8X chunk is the image size (24-bit fields hold `w−1`, `h−1`) -/
theorem canvas_exact (icc exif xmp : List Nat) (w h : Nat) (a : Bool) (hw : 1 ≤ w ∧ w ≤ 16384) (hh : 1 ≤ h ∧ h ≤ 16384) :
    let p := vp8xPayload icc exif xmp w h a
    le ((p.drop 4).take 3) + 1 = w ∧ le ((p.drop 7).take 3) + 1 = h := by
  have field : ∀ n, 1 ≤ n ∧ n ≤ 16384 → le ((le32 (n - 1)).take 3) + 1 = n := by
    intro n hn
    rw [le_take3 _ (Nat.sub_one_lt_of_le hn.1 (Nat.le_trans hn.2 (by decide)))]
    exact Nat.sub_add_cancel hn.1
  exact ⟨field w hw, field h hh⟩

-- non-vacuity
example : Small [1, 2, 3] [] [9] [] := by unfold Small; decide
example : demux (encode [47, 0, 0] [] [9] [] 1 1 false) =
    some { riffSize := 44, chunks := [(fourcc "VP8X", [8, 0, 0, 0, 0, 0, 0, 0, 0, 0]), (fourcc "VP8L", [47, 0, 0]), (fourcc "EXIF", [9])] } := by decide +kernel

end C09
