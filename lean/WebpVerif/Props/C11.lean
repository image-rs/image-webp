import WebpVerif.Lemmas.ReadImage
import WebpVerif.Props.C05
import WebpVerif.Props.C01

/-!
# C11 — output buffers: size checked, every byte written, all wrappings agree

`ReadImage.readImage` models the dispatch of `WebPDecoder::read_image` around the payload
decoders (taken at their contracts, see the model file).  Proved here, for every still, wrapping,
buffer length and buffer content:
* the size formula and the rejection of every other buffer length (no buffer is produced: the
  caller's buffer is untouched);
* on the lossless paths the result does not depend on what the buffer held, and the
  three-channel output is the four-channel output with alpha dropped;
* on the lossy paths every colour byte is written: pixel (x,y) of the RGB output and of the RGBA
  output carry the same three bytes, whatever the two buffers held before; with the alpha flag set
  and no ALPH chunk the image is opaque.
Of the in-place VP8L decoder, the pixel loop, the colour-indexing transform and the other three
inverse transforms are proved not to depend on what the buffer held.  That
`decode_frame` as a whole overwrites every byte of `buf` is covered by the correspondence run with
poisoned buffers.
-/
namespace C11
open ReadImage

theorem size_formula (wr : Wrapping) (s : Still) :
    outputBufferSize wr s = s.w * s.h * (if hasAlpha wr s then 4 else 3) := rfl

/-- any other buffer length is rejected, before anything is decoded or written -/
theorem wrong_len_rejected (wr : Wrapping) (s : Still) (buf : List Nat)
    (h : buf.length ≠ outputBufferSize wr s) : readImage wr s buf = .error .imageTooLarge := by
  unfold readImage; rw [if_pos h]

/-- lossless stills (simple or extended): the result is a function of the file alone -/
theorem lossless_init_independent (wr : Wrapping) (w h : Nat) (rgba : List Nat) (ab : Bool) (b1 b2 : List Nat)
    (hwr : match wr with | .anim1 .. => False | _ => True)
    (h1 : b1.length = b2.length) :
    readImage wr ⟨w, h, .lossless rgba ab⟩ b1 = readImage wr ⟨w, h, .lossless rgba ab⟩ b2 := by
  cases wr with
  | anim1 a bg => exact absurd hwr (by simp)
  | simple => unfold readImage; rw [h1]
  | extended a => unfold readImage; rw [h1]

/-- lossless: three-channel output = four-channel output with alpha dropped, for both settings
    of the container flag and whatever the buffers held -/
theorem lossless_rgb_is_rgba_without_alpha (w h : Nat) (rgba : List Nat) (ab : Bool) (b3 b4 : List Nat)
    (h3 : b3.length = w * h * 3) (h4 : b4.length = w * h * 4) :
    ∃ out4, readImage (.extended true) ⟨w, h, .lossless rgba ab⟩ b4 = .ok out4 ∧
      readImage (.extended false) ⟨w, h, .lossless rgba ab⟩ b3 = .ok (dropAlpha out4) := by
  refine ⟨rgba, ?_, ?_⟩
  · unfold readImage outputBufferSize hasAlpha; simp [h4]
  · unfold readImage outputBufferSize hasAlpha; simp [h3]

/-- simple and extended wrapping of a lossless payload agree when the container flag repeats the
    stream's own alpha bit -/
theorem lossless_simple_eq_extended (w h : Nat) (rgba : List Nat) (ab : Bool) (buf : List Nat) :
    readImage .simple ⟨w, h, .lossless rgba ab⟩ buf = readImage (.extended ab) ⟨w, h, .lossless rgba ab⟩ buf := by
  unfold readImage outputBufferSize hasAlpha; rfl

/-- **Lossy stills: every colour byte is written, and RGB = RGBA without alpha, pixel by pixel**:
    whatever the three-byte and four-byte buffers held, pixel (x, y) gets the same colour bytes in
    both outputs (those of C13's kernel), with or without an ALPH chunk -/
theorem lossy_rgb_rgba_agree (w h : Nat) (ybuf ubuf vbuf : List Nat) (alph : Option (Nat × Array Nat))
    (b3 b4 : List Nat) (hw : 0 < w)
    (hyl : ybuf.length = w * h) (hul : ubuf.length = ((w + 1) / 2) * ((h + 1) / 2))
    (hvl : vbuf.length = ((w + 1) / 2) * ((h + 1) / 2))
    (h3 : b3.length = w * h * 3) (h4 : b4.length = w * h * 4)
    (x y c : Nat) (hx : x < w) (hy : y < h) (hc : c < 3) :
    ∃ out3 out4, readImage (.extended false) ⟨w, h, .lossy ybuf ubuf vbuf alph⟩ b3 = .ok out3 ∧
      readImage (.extended true) ⟨w, h, .lossy ybuf ubuf vbuf alph⟩ b4 = .ok out4 ∧
      out3[(y * w + x) * 3 + c]? = out4[(y * w + x) * 4 + c]? ∧
      out3[(y * w + x) * 3 + c]? = some (Yuv.rgb c (ybuf.getD (y * w + x) 0)
        (ubuf.getD (((w + 1) / 2) * (y / 2) + x / 2) 0) (vbuf.getD (((w + 1) / 2) * (y / 2) + x / 2) 0)) := by
  have h3' : b3.length = 3 * w * h := by rw [h3, Nat.mul_comm, Nat.mul_assoc]
  have h4' : b4.length = 4 * w * h := by rw [h4, Nat.mul_comm, Nat.mul_assoc]
  have hrgb := C13.frame_rgb w h ybuf ubuf vbuf b3 hyl hul hvl h3' x y c hx hy hc
  have hc4 : c < 4 := Nat.lt_succ_of_lt hc
  have hrgba := C13.frame_rgba w h ybuf ubuf vbuf b4 hyl hul hvl h4' x y c hx hy hc4
  rw [if_neg (Nat.ne_of_lt hc)] at hrgba
  have hne : ¬ ((y * w + x) * 4 + c) % 4 = 3 := by
    rw [Nat.mul_comm, Nat.mul_add_mod, Nat.mod_eq_of_lt hc4]; exact Nat.ne_of_lt hc
  cases alph with
  | none =>
    refine ⟨_, setAlpha255 (Yuv.fillRgba w ybuf ubuf vbuf b4), ?_, ?_, ?_, hrgb⟩
    · unfold readImage; rw [if_neg (fun hne => hne h3)]; rfl
    · unfold readImage; rw [if_neg (fun hne => hne h4)]; rfl
    · rw [hrgb, getElem?_setAlpha255, if_neg (fun h => hne h.1), hrgba]
  | some fd =>
    obtain ⟨f, d⟩ := fd
    refine ⟨_, (Alpha.unfilterInto w f d (w * h) (Yuv.fillRgba w ybuf ubuf vbuf b4).toArray).toList, ?_, ?_, ?_, hrgb⟩
    · unfold readImage; rw [if_neg (fun hne => hne h3)]; rfl
    · unfold readImage; rw [if_neg (fun hne => hne h4)]; rfl
    · rw [hrgb, Array.getElem?_toList, C05.alpha_loop_keeps_colour _ _ _ _ _ _ hne, List.getElem?_toArray, hrgba]

/-- alpha flag set but no ALPH chunk: every alpha byte of the output is 255 -/
theorem missing_alph_is_opaque (l : List Nat) (i : Nat) (h : 4 * i + 3 < l.length) :
    (setAlpha255 l)[4 * i + 3]? = some 255 := by
  rw [getElem?_setAlpha255, if_pos ⟨Nat.mul_add_mod 4 i 3, h⟩]

-- non-vacuity
example : readImage (.extended false) ⟨1, 1, .lossless [9, 8, 7, 6] true⟩ [0, 0, 0] = .ok [9, 8, 7] := by decide
example : readImage (.extended true) ⟨1, 1, .lossless [9, 8, 7, 6] true⟩ [0, 0, 0] = .error .imageTooLarge := by decide

/-- **The in-place lossless pixel loop does not depend on the previous buffer contents**: for
    every image size, group layout, colour-cache size and operation list consistent with the
    single-symbol groups, two buffers with different old contents come out identical (same pixels
    or the same rejection) - including the chunked copies that read and scribble beyond the pixels
    decoded so far.  Both runs equal the specification's on one of the buffers
    (`LLoop.decode_refines_any`, which relates the loop on one buffer to the specification on another). -/
theorem lossless_loop_init_independent (c : LLoop.Cfg) (h32 : c.cacheBits ≤ 32) (hw : 0 < c.width)
    (init1 init2 : Array Nat) (ops : List LLoop.Op)
    (h1 : init1.size = c.width * c.height) (h2 : init2.size = c.width * c.height)
    (hcons : LLoop.cons c (c.width * c.height + 1) 0 0 ops = true) :
    LLoop.decode c init1 ops = LLoop.decode c init2 ops :=
  (LLoop.decode_refines_any c init1 init2 ops h1 h2 hcons).trans (LLoop.decode_refines_any c init2 init2 ops h2 h2 hcons).symm

/-- **The in-place colour-indexing transform does not depend on the stale part of the buffer.**
    `apply_color_indexing_transform` expands the packed index image - the first `⌈w/2^wb⌉·h` pixels
    of the `w·h` buffer - inside the same buffer; the rest of the buffer holds whatever was there.
    Two buffers that agree on the packed part give the same pixels, for every palette of 1..16
    colours, width, height and stale contents.  Corollary of `C01.color_indexing_in_place`. -/
theorem color_indexing_init_independent (pal : Array Nat) (w h : Nat) (d d' : Array Nat) (hts : 1 ≤ pal.size ∧ pal.size ≤ 16)
    (hw : 1 ≤ w) (hsz : d.size = w * h) (hsz' : d'.size = w * h)
    (hagree : ∀ i, i < VP8L.subSize w (VP8L.indexBits pal.size) * h → d[i]! = d'[i]!)
    (x y : Nat) (hx : x < w) (hy : y < h) :
    (CIdx.apply pal pal.size w h d)[y * w + x]! = (CIdx.apply pal pal.size w h d')[y * w + x]! := by
  rw [C01.color_indexing_in_place pal w h d hts hw hsz x y hx hy, C01.color_indexing_in_place pal w h d' hts hw hsz' x y hx hy]
  unfold C01.specIndexPixel
  simp only []
  -- the packed pixel of `(x, y)` lies in the part on which the two buffers agree
  have g := CIdx.geo_ceil (2 ^ VP8L.indexBits pal.size) w (Nat.two_pow_pos _) hw
  have hlt : x / 2 ^ VP8L.indexBits pal.size < VP8L.subSize w (VP8L.indexBits pal.size) :=
    Nat.div_lt_of_lt_mul (by rw [Nat.mul_comm]; exact Nat.lt_of_lt_of_le hx g.hhi)
  have hrow := CIdx.succ_mul_le y h (VP8L.subSize w (VP8L.indexBits pal.size)) hy
  rw [hagree _ (by rw [Nat.mul_comm _ h]; omega)]

/-- **The other three in-place inverse transforms are functions of the pixels alone.**  What the
    predictor, colour and subtract-green drivers leave in the buffer is the specification's pure
    function of the pixels they found in it (`C01.predictor_transform_is_spec`,
    `color_transform_is_spec`, `subtract_green_is_spec`) - nothing else (no scratch space, no
    earlier contents) enters. -/
theorem inverse_transforms_are_functions_of_the_pixels (a d : Array Nat) (w h bits : Nat) (hw : 0 < w) (hh : 0 < h)
    (hs : a.size = 4 * (w * h)) (hb : LTrProof.Bytes a) (hd : LTrProof.Bytes d) (hd4 : d.size % 4 = 0)
    (hmode : ∀ k, d.getD (4 * k + 1) 0 < 14) :
    LTrProof.pixels (LTr.applyPredictor w h bits d a) = VP8LP.invPredictor bits (LTrProof.pixels d).toArray w (LTrProof.pixels a) 0 [] ∧
    LTrProof.pixels (LTr.applyColor w bits d a) = VP8LP.invColor bits (LTrProof.pixels d).toArray w (LTrProof.pixels a) 0 ∧
    LTrProof.pixels (LTr.applySubGreen a) = (LTrProof.pixels a).map VP8LP.invSubGreenPx :=
  ⟨C01.predictor_transform_is_spec a d w h bits hw hh hs hb hd hd4 hmode,
   C01.color_transform_is_spec w h bits d a hb hd hd4 (by rw [hs, Nat.mul_assoc]) hw,
   C01.subtract_green_is_spec a hb (by rw [hs]; exact Nat.mul_mod_right 4 _)⟩

end C11
