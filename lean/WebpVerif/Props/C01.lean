import WebpVerif.Model.LosslessKernels
import WebpVerif.Spec.Lossless
import WebpVerif.Lemmas.BitReader
import WebpVerif.Lemmas.LLoop
import WebpVerif.Lemmas.EncHuffCodes
import WebpVerif.Lemmas.PrefixFree
import WebpVerif.Lemmas.HuffTop
import WebpVerif.Lemmas.ColorIndex
import WebpVerif.Lemmas.CodeRead
import WebpVerif.Lemmas.StreamCong
import WebpVerif.Lemmas.LPred
import WebpVerif.Lemmas.LCompose

/-!
# C01 — VP8L decoding matches the lossless specification for every valid stream

`VP8L` (Spec/Lossless.lean) is the specification as an executable decoder; the correspondence
run compares the real decoder with it and with libwebp on every generated valid stream.
This file proves, for ALL arguments, the equalities between the code's kernels (`LK`, `BitReader`)
and the specification's — the tables, the LZ77 prefix arithmetic, the distance map with its
clamping, the colour-cache hash, the predictor and colour-transform kernels, that the bit reader
delivers exactly the stream's bits — and, on the models of the larger parts, that the pixel loop
of `decode_image_data`, `HuffmanTree`, `read_huffman_code`, the entropy layer inside the whole
stream and the four inverse-transform drivers compute what the specification defines.
-/
namespace C01

/-- the crate's distance map is libwebp's `kCodeToPlane` (each entry `(8 − (c & 15), c >> 4)`),
    for all 120 codes -/
theorem distance_map_eq :
    Gen.Tables.DISTANCE_MAP = Gen.Libwebp.kCodeToPlane.map fun c => [(8 : Int) - ((c % 16 : Nat) : Int), ((c / 16 : Nat) : Int)] := by
  decide +kernel

/-- the two copies of the code-length code order (decoder, encoder) and libwebp's are the same -/
theorem code_length_order_eq :
    Gen.Tables.CODE_LENGTH_CODE_ORDER = Gen.Libwebp.kCodeLengthCodeOrder ∧
    Gen.Tables.ENC_CODE_LENGTH_ORDER = Gen.Libwebp.kCodeLengthCodeOrder := by decide

/-- LZ77 prefix coding: the decoded value and the number of extra bits in closed form, for every
    prefix symbol and every value of the extra bits -/
theorem copy_value_eq (sym bits : Nat) :
    LK.copyValue sym bits = (if sym < 4 then sym + 1 else (2 + sym % 2) * 2 ^ ((sym - 2) / 2) + bits + 1) ∧
    LK.copyExtraBits sym = (if sym < 4 then 0 else (sym - 2) / 2) := by
  unfold LK.copyValue LK.copyExtraBits; exact ⟨rfl, rfl⟩

/-- the specification's `prefixValue` reads `copyExtraBits sym` bits and returns `copyValue` of them -/
theorem copy_value_spec (sym : Nat) (b : VP8L.Bits) :
    VP8L.prefixValue b sym =
      if sym < 4 then some (sym + 1, b)
      else (VP8L.readBits b (LK.copyExtraBits sym)).map fun (v, b') => (LK.copyValue sym v, b') := by
  unfold VP8L.prefixValue LK.copyExtraBits LK.copyValue
  by_cases h : sym < 4
  · simp [h]
  · simp only [h, if_false]
    cases VP8L.readBits b ((sym - 2) / 2) <;> rfl

/-- distance codes: the crate's table walk with its `dist < 1 → 1` clamp equals the
    specification's, for every image width and every code ≥ 1 -/
theorem plane_code_to_distance_eq (xsize code : Nat) (hc : 1 ≤ code) :
    LK.planeCodeToDistance xsize code = VP8L.distanceOf xsize code := by
  unfold LK.planeCodeToDistance VP8L.distanceOf
  by_cases h : code > 120
  · rw [if_pos h, if_pos h]
  · -- entry `code - 1` of the crate's table, read off `distance_map_eq`
    rw [if_neg h, if_neg h, distance_map_eq]
    have hk : code - 1 < Gen.Libwebp.kCodeToPlane.length := Nat.sub_one_lt_of_le hc (Nat.le_of_not_lt h)
    simp only [List.getD_eq_getElem?_getD, List.getElem?_map, List.getElem?_eq_getElem hk, Option.map_some, Option.getD_some,
      List.getElem?_cons_zero, List.getElem?_cons_succ]

/-- colour cache: the code hashes the same 32-bit ARGB value as the specification -/
theorem cache_index_eq (r g b a bits : Nat) :
    LK.cacheIndex r g b a bits = VP8L.cacheIndex (VP8L.mk a r g b) bits := by
  unfold LK.cacheIndex VP8L.cacheIndex VP8L.mk
  rw [Nat.add_comm (r * 2 ^ 16 + g * 2 ^ 8 + b), ← Nat.add_assoc, ← Nat.add_assoc]

theorem average2_eq (a b : Nat) : LK.average2 a b = (a + b) / 2 := rfl

theorem clamp_full_eq (a b c : Nat) : LK.clampAddSubFull a b c = VP8L.clamp ((a : Int) + b - c) :=
  LTrProof.clampFull_eq a b c

theorem clamp_half_eq (a b : Nat) :
    LK.clampAddSubHalf a b = VP8L.clamp ((a : Int) + Int.tdiv ((a : Int) - b) 2) :=
  LTrProof.clampHalf_eq a b

/-- predictor 11: the code's decision (sum over channels of |p − L| vs |p − T| with
    p = L + T − TL) is the specification's Select -/
theorem select_eq (L T TL : Nat) :
    VP8L.select L T TL =
      if LK.selectLeft [VP8L.ch L 0, VP8L.ch L 1, VP8L.ch L 2, VP8L.ch L 3] [VP8L.ch T 0, VP8L.ch T 1, VP8L.ch T 2, VP8L.ch T 3]
          [VP8L.ch TL 0, VP8L.ch TL 1, VP8L.ch TL 2, VP8L.ch TL 3] then L else T :=
  LTrProof.select_eq L T TL

/-- colour transform: the wrapping u32 arithmetic of the code and the signed arithmetic shift of
    the specification give the same byte, for all transform elements and channel values -/
theorem color_delta_eq : ∀ t < 256, ∀ c < 256, ∀ x < 256,
    (LK.addDelta x t c : Int) = ((x : Int) + VP8L.colorDeltaFloor t c) % 256 :=
  LTrProof.color_delta_eq

/-- what `peek` returns: the `n` bits of the byte string (read as the little-endian number
    `le64 data`) that start at the current bit position `8·pos − nbits`, LSB first -/
theorem read_bits_is_stream_window (data : List Nat) (br : BitReader.BR) (n : Nat)
    (h : BitReader.Inv data br) (hn : n ≤ br.nbits) :
    BitReader.peek br n = (BitReader.le64 data >>> (8 * br.pos - br.nbits)) % 2 ^ n :=
  BitReader.peek_value data br n h hn

/-- **The chunked overlapping copy is the LZ77 copy.** The 16-byte `copy_within` strategy
    (first chunk, then chunks stepping by `min(dist·4, 16)` bytes, scribbling up to three pixels
    past the end) and the byte loop used near the end of the image both leave, at every pixel of the
    reference, the pixel `dist` back - for every buffer, position, distance ≥ 2 and length. -/
theorem chunked_copy_is_lz77 (d : Array Nat) (n index dist len : Nat) (hn : d.size = n)
    (h2 : 2 ≤ dist) (hd : dist ≤ index) (hl1 : 1 ≤ len) (hlen : index + len ≤ n) :
    (LLoop.copyFar d n index dist len).size = d.size ∧
    ∀ p, p < index + len → (LLoop.copyFar d n index dist len)[p]! =
      if index ≤ p then LLoop.target d index dist p else d[p]! := by
  obtain ⟨hsz, hval⟩ := LLoop.copyFar_target d n index dist len hn (Nat.le_of_succ_le h2) hd hl1 hlen
  refine ⟨hsz, fun p hp => ?_⟩
  rw [hval p hp]
  split
  · rfl
  · exact LLoop.target_of_lt d index dist p (by omega)

/-- **The pixel loop refines the per-pixel specification.** For every image size, meta-group
    layout, colour-cache size, previous buffer contents and every operation list (what the
    entropy-coded symbols decode to) that is consistent with the single-symbol groups, the model
    of the loop - block bookkeeping, single-symbol fast path, literals, distance-1 run fill,
    chunked and byte-wise copies, colour-cache insertion points (none for distance-1 copies, one
    per fast-path fill), speculative second cache symbol, both bounds tests - returns exactly what
    `LLoop.specDecode` returns, the one-pixel-at-a-time reading of section 5.2 of the lossless
    specification written out in Model/LosslessLoop.lean (`VP8LP.loop` is not involved): the same
    pixels, or the same rejection.  That the previous buffer contents do not matter is
    `C11.lossless_loop_init_independent`. -/
theorem loop_refines_spec (c : LLoop.Cfg) (h32 : c.cacheBits ≤ 32) (hw : 0 < c.width) (init : Array Nat)
    (ops : List LLoop.Op) (hinit : init.size = c.width * c.height)
    (hcons : LLoop.cons c (c.width * c.height + 1) 0 0 ops = true) :
    LLoop.decode c init ops = LLoop.specDecode c init ops :=
  LLoop.decode_refines_any c init init ops hinit hinit hcons

/-- non-vacuity of `loop_refines_spec`, for the example below: `exOps` (overlapping copy with
    distance 3 near the end, distance-1 run) passes the consistency test on this 5 x 3 image, and the
    loop started on a buffer of zeros returns what the loop and the specification return on a buffer of 99s -/
def exCfg : LLoop.Cfg := { width := 5, height := 3, bits := 0, mask := 0, xsize := 0, image := #[], single := #[none], cacheBits := 0 }
def exOps : List LLoop.Op := [.lit 7, .lit 9, .lit 11, .back 7 3, .lit 4, .back 3 1, .lit 2]
example : LLoop.cons exCfg 16 0 0 exOps = true ∧
    LLoop.decode exCfg (Array.replicate 15 0) exOps = LLoop.decode exCfg (Array.replicate 15 99) exOps ∧
    LLoop.decode exCfg (Array.replicate 15 0) exOps = LLoop.specDecode exCfg (Array.replicate 15 99) exOps := by
  have hc : LLoop.cons exCfg 16 0 0 exOps = true := by decide
  have h := LLoop.decode_refines_any exCfg (Array.replicate 15 0) (Array.replicate 15 99) exOps rfl rfl hc
  exact ⟨hc, h.trans (loop_refines_spec exCfg (by decide) (by decide) _ exOps rfl hc).symm, h⟩

/-- **Prefix-code symbols are never rejected.**  For EVERY length vector that is a
    complete code (all lengths ≤ 15, Kraft sum exactly 2^15 - any alphabet size, any shape) and
    EVERY string of at least 15 bits, the specification's canonical symbol decoder returns a
    symbol, and the bits it consumed are exactly that symbol's canonical code word (MSB first).
    The crate's `HuffmanTree` (two-level table + secondary tree) is compared with this
    decoder on generated length vectors and bit strings in every run. -/
theorem symbol_decoder_total (lengths : Array Nat) (hall : ∀ l ∈ lengths.toList, l ≤ 15)
    (hk : Prefix.kraft lengths.toList 15 = 2 ^ 15) (bits : List Nat) (hb : ∀ b ∈ bits, b < 2) (hlen : 15 ≤ bits.length) :
    ∃ s rest taken, Prefix.decodeSym lengths.toList 15 0 0 bits = some (s, rest) ∧ bits = taken ++ rest ∧
      lengths.toList.getD s 0 = taken.length ∧
      Prefix.canonicalCode lengths.toList s = some (taken.foldl (fun acc b => 2 * acc + b) 0) := by
  have hend : Prefix.blockEnd lengths.toList 15 = 2 ^ 15 := by
    rw [← EncHuff.kraft_eq_blockEnd _ _ hall, hk]
  obtain ⟨s, rest, hdec⟩ := Prefix.decodeSym_total lengths.toList 15 (by decide) hend 15 0 0 bits (Nat.le_add_left 15 0) (by rw [Nat.zero_add]; exact hlen) hb
    (by decide) (Nat.le_of_eq rfl)
  obtain ⟨taken, e1, e2, e3⟩ := Prefix.decodeSym_sound lengths.toList 15 0 0 bits s rest hdec
  exact ⟨s, rest, taken, hdec, e1, by rw [e2, Nat.zero_add], e3⟩

-- non-vacuity: the complete code {1, 2, 3, 3} (with an unused symbol) on sixteen bits
example : Prefix.kraft [1, 0, 2, 3, 3] 15 = 2 ^ 15 ∧
    Prefix.decodeSym [1, 0, 2, 3, 3] 15 0 0 [1, 1, 0, 1, 1, 1, 1, 1, 1, 1, 1, 1, 1, 1, 1, 1] = some (3, [1, 1, 1, 1, 1, 1, 1, 1, 1, 1, 1, 1, 1]) := by
  decide

/-- **`HuffmanTree` reads what the specification reads.**  `Huff.build` / `Huff.readSym` model
    `HuffmanTree::build_implicit` / `read_symbol` (primary table with replicated entries, the
    secondary trees of `Branch(offset)` / `Leaf` / `Empty` nodes in one vector, the slow path).
    For EVERY length vector (lengths ≤ 15, up to 5000 symbols - any alphabet, any shape) for which
    the builder returns a table: the vector is a valid (complete) code of the specification, and
    on EVERY string of at least 15 bits the reader returns exactly the symbol, and leaves exactly
    the rest, that the specification's canonical decoder returns.  Proved through: the
    `next_codes` loop hands out the canonical code words; every table slot and every tree path
    that starts with the word of an already inserted symbol still answers with that symbol after
    each later insertion (prefix-freeness of the canonical code; later insertions only write
    `Empty` nodes and appended nodes); the slow path follows the inserted path. -/
theorem huffman_tree_reads_spec (ls : List Nat) (hall : ∀ l ∈ ls, l ≤ 15) (hn : ls.length ≤ 5000) (t : Huff.HT)
    (ht : Huff.build ls = .ok t) :
    Prefix.validLengths ls = true ∧
    ∀ bits : List Nat, (∀ b ∈ bits, b < 2) → 15 ≤ bits.length →
      Huff.readSym (Huff.build ls) bits = Prefix.decodeSymbol ls bits :=
  ⟨Huff.build_ok_valid ls hall hn t ht, fun bits hb _ => Huff.build_ok_spec_all ls hall hn t ht bits hb⟩

/-- a vector with exactly one used symbol: the single-node tree, no bits read -/
theorem huffman_tree_single (ls : List Nat) (hall : ∀ l ∈ ls, l ≤ 15) (s : Nat) (hs : Huff.build ls = .single s) :
    Prefix.validLengths ls = true ∧ ∀ bits : List Nat, Huff.readSym (Huff.build ls) bits = Prefix.decodeSymbol ls bits :=
  Huff.build_single_spec ls hall s hs

/-- **Every valid code is accepted.**  For EVERY length vector that is a valid code of the
    specification (lengths ≤ 15, one used symbol or a complete code; up to 5000 symbols) the
    builder returns a tree: the depth loop never meets a `Leaf` and always ends on an `Empty`
    node. -/
theorem huffman_tree_accepts_valid (ls : List Nat) (hall : ∀ l ∈ ls, l ≤ 15) (hn : ls.length ≤ 5000)
    (hv : Prefix.validLengths ls = true) : (∃ t, Huff.build ls = .ok t) ∨ (∃ s, Huff.build ls = .single s) :=
  Huff.build_total ls hall hn hv

/-- **`HuffmanTree` = the specification's symbol decoder** (model level): accepted exactly when
    valid, and then reading exactly the same symbols from EVERY bit string - including the last bits of
    the data, where the reader peeks a zero-padded word and `consume` fails exactly when the
    specification runs out of bits -/
theorem huffman_tree_is_spec (ls : List Nat) (hall : ∀ l ∈ ls, l ≤ 15) (hn : ls.length ≤ 5000) :
    ((∃ t, Huff.build ls = .ok t) ∨ (∃ s, Huff.build ls = .single s) ↔ Prefix.validLengths ls = true) ∧
    (Prefix.validLengths ls = true → ∀ bits : List Nat, (∀ b ∈ bits, b < 2) →
      Huff.readSym (Huff.build ls) bits = Prefix.decodeSymbol ls bits) := by
  constructor
  · constructor
    · rintro (⟨t, ht⟩ | ⟨s, hs⟩)
      · exact (huffman_tree_reads_spec ls hall hn t ht).1
      · exact (huffman_tree_single ls hall s hs).1
    · exact huffman_tree_accepts_valid ls hall hn
  · intro hv bits hb
    rcases huffman_tree_accepts_valid ls hall hn hv with ⟨t, ht⟩ | ⟨s, hs⟩
    · exact Huff.build_ok_spec_all ls hall hn t ht bits hb
    · exact (huffman_tree_single ls hall s hs).2 bits

-- non-vacuity: a complete code, short enough for kernel evaluation, is accepted and read (codes
-- long enough to need secondary trees are exercised by the runtime tie on every run)
example : (match Huff.build [1, 2, 3, 3] with | .ok _ => true | _ => false) = true ∧
    Huff.readSym (Huff.build [1, 2, 3, 3]) [1, 1, 0, 1, 0, 1, 1, 1, 1, 1, 1, 1, 1, 1, 1, 1] = some (2, [1, 0, 1, 1, 1, 1, 1, 1, 1, 1, 1, 1, 1]) := by
  decide +kernel

/-- the pixel the specification defines (the body of the loop of `VP8L.inverseIndexing`,
    Spec/Lossless.lean): the table entry selected by the bits of the packed index pixel -/
def specIndexPixel (table : Array Nat) (w : Nat) (img : Array Nat) (x y : Nat) : Nat :=
  let wb := VP8L.indexBits table.size
  let pw := VP8L.subSize w wb
  let bpp := 8 / 2 ^ wb
  let packed := VP8L.ch (img[y * pw + x / 2 ^ wb]!) 1
  table.getD ((packed / 2 ^ (bpp * (x % 2 ^ wb))) % 2 ^ bpp) 0

/-- **In place = specification.**  `CIdx.apply` models `apply_color_indexing_transform`, which for
    palettes of up to 16 colours expands the packed index image (the first `⌈w/2^wb⌉·h` pixels of
    the `w·h` buffer) inside that same buffer, last row first and right to left.  For EVERY
    palette of 1..16 colours, every width, height and buffer content: each pixel of the result is
    the pixel the specification computes from the ORIGINAL packed image - no group is ever written
    over a packed pixel that is still to be read, nor over a group written before. -/
theorem color_indexing_in_place (pal : Array Nat) (w h : Nat) (d : Array Nat) (hts : 1 ≤ pal.size ∧ pal.size ≤ 16)
    (hw : 1 ≤ w) (hsz : d.size = w * h) (x y : Nat) (hx : x < w) (hy : y < h) :
    (CIdx.apply pal pal.size w h d)[y * w + x]! = specIndexPixel pal w d x y := by
  have hwb : (if pal.size ≤ 2 then 3 else if pal.size ≤ 4 then 2 else 1) = VP8L.indexBits pal.size := by
    unfold VP8L.indexBits; rw [if_pos hts.2]
  unfold CIdx.apply specIndexPixel
  rw [if_neg (Nat.not_lt_of_le hts.2), hwb]
  exact (CIdx.run_spec pal pal.size _ _ w _ h d (CIdx.geo_ceil _ w (Nat.two_pow_pos _) hw) hsz y x hy hx).trans
    (CIdx.entry_eq pal _ _ _)

/-- palettes of more than 16 colours: one index per pixel, mapped where it stands -/
theorem color_indexing_direct (pal : Array Nat) (w h : Nat) (d : Array Nat) (hts : 16 < pal.size)
    (i : Nat) (hi : i < d.size) :
    (CIdx.apply pal pal.size w h d)[i]! = pal.getD (VP8L.ch d[i]! 1) 0 := by
  unfold CIdx.apply
  rw [if_pos hts]
  have hgreen : ∀ p, CIdx.green p = VP8L.ch p 1 := fun p => by unfold CIdx.green VP8L.ch; rfl
  rw [Array.getElem!_eq_getD, Array.getD_eq_getD_getElem?, Array.getElem?_map, Array.getElem?_eq_getElem hi]
  simp only [Option.map_some, Option.getD_some]
  rw [hgreen, Array.getElem!_eq_getD (xs := d), Array.getD_eq_getD_getElem? (xs := d), Array.getElem?_eq_getElem hi]
  simp only [Option.getD_some]
  by_cases hk : VP8L.ch d[i] 1 < pal.size
  · rw [if_pos hk, Array.getElem!_eq_getD, Array.getD_eq_getD_getElem?, Array.getD_eq_getD_getElem?]
    rfl
  · rw [if_neg hk, Array.getD_eq_getD_getElem?, Array.getElem?_eq_none (Nat.le_of_not_lt hk)]
    rfl

-- non-vacuity: a 5x2 image with a 3-colour palette (2 bits per index, 4 pixels per packed pixel)
example : (List.range 10).map (fun i => (CIdx.apply #[7, 8, 9] 3 5 2 #[0x1b00, 0x0200, 0x2400, 0x0100, 99, 99, 99, 99, 99, 99])[i]!) =
    (List.range 10).map (fun i => specIndexPixel #[7, 8, 9] 5 #[0x1b00, 0x0200, 0x2400, 0x0100, 99, 99, 99, 99, 99, 99] (i % 5) (i / 5)) := by
  decide +kernel

/-- **`read_huffman_code` = the specification's `ReadCode`.**  `CodeRead.readCode` is the model of
    `LosslessDecoder::read_huffman_code` and `read_huffman_code_lengths` (simple codes with one or
    two symbols in either order, the code-length code in `CODE_LENGTH_CODE_ORDER`, `max_symbol`,
    the symbol loop over a preallocated vector with the repeat codes 16 / 17 / 18, the final
    `build_implicit`), tied to the real functions through hook 910fc7a on whole, truncated and
    bit-flipped serialisations.  For EVERY alphabet size 2..5000 and EVERY bit string: the model
    rejects exactly when the specification rejects; otherwise both leave the same rest of the
    stream, and the `HuffmanTree` the model returns (single node, two-node or table + secondary
    trees) decodes every bit string exactly like the canonical code of the lengths the
    specification read. -/
theorem read_code_is_spec (alphabet : Nat) (h2 : 2 ≤ alphabet) (h5000 : alphabet ≤ 5000) (bits : List Nat)
    (hb : ∀ b ∈ bits, b < 2) :
    match CodeRead.readCode alphabet bits, Prefix.readCodeL alphabet bits with
    | none, none => True
    | some (t, r), some (lens, r') =>
      r = r' ∧ ∀ bs : List Nat, (∀ b ∈ bs, b < 2) → Huff.readSym t bs = Prefix.decodeSymbol lens bs
    | _, _ => False :=
  CodeReadProof.read_code_is_spec alphabet h2 h5000 bits hb

-- non-vacuity: a two-symbol simple code (symbols 1 and 0, written in descending order) followed by
-- one more bit is accepted by both, and the bit is left in the stream
example : (CodeRead.readCode 40 [1, 1, 0, 1, 0, 0, 0, 0, 0, 0, 0, 0, 1]).map (·.2) = some [1] ∧
    (Prefix.readCodeL 40 [1, 1, 0, 1, 0, 0, 0, 0, 0, 0, 0, 0, 1]).map (·.2) = some [1] := by
  decide

/-- **Whole streams with the crate's entropy layer.**  `LStream.decodeCrate` is the VP8L decoder
    obtained by putting the models of the crate's `read_huffman_code` / `read_huffman_code_lengths`
    (`CodeRead.readCode`) and `HuffmanTree` (`Huff.readSym`: primary table, secondary trees, slow
    path, single- and two-node trees) into the stream structure of the specification (header,
    transforms, colour cache, meta prefix image, pixel loop, inverse transforms); it is compared
    with the real decoder on every generated stream of up to 300 pixels.  For EVERY byte string
    it returns exactly what the specification `VP8LP.decode` returns - the same acceptance, the
    same dimensions, the same pixels: every prefix code of every group of every (sub-)image is read
    like `ReadCode` reads it, and every symbol of every pixel is decoded like the canonical code
    decodes it, wherever in the stream it stands. -/
theorem entropy_layer_in_stream (bytes : List Nat) : LStream.decodeCrate bytes = VP8LP.decode bytes :=
  LStreamProof.decodeCrate_is_spec bytes

/-- **`apply_predictor_transform` is the specification's inverse predictor transform.**
    `LTr.applyPredictor` models the driver as the code runs it, in place on the RGBA byte buffer and
    in the code's own order - alpha of pixel 0, the rest of the first row with predictor 1, the first
    column of every row with predictor 2, then row by row and block by block (`block_x << size_bits`
    clipped to 1..width) the fourteen `apply_predictor_transform_N` loops, each reading the
    neighbours it needs from the buffer it is writing (model tied to the real function byte for byte
    on every run).  For EVERY width, height, `size_bits`, predictor sub-image with modes 0..13 and
    residual buffer, the buffer afterwards, read as ARGB pixels, is exactly the specification's
    `invPredictor` (raster order, neighbours L / T / TR / TL incl. the rule that the top-right of the
    last pixel of a row is the first pixel of the row, per-channel arithmetic mod 256, Select's
    Manhattan distances, the two clamps).  Modes 14 and 15 are outside the specification. -/
theorem predictor_transform_is_spec (a d : Array Nat) (w h bits : Nat) (hw : 0 < w) (hh : 0 < h) (hs : a.size = 4 * (w * h))
    (hb : LTrProof.Bytes a) (hd : LTrProof.Bytes d) (hd4 : d.size % 4 = 0) (hmode : ∀ k, d.getD (4 * k + 1) 0 < 14) :
    LTrProof.pixels (LTr.applyPredictor w h bits d a) =
      VP8LP.invPredictor bits (LTrProof.pixels d).toArray w (LTrProof.pixels a) 0 [] :=
  LTrProof.predictor_is_spec a d w h bits hw hh hs hb hd hd4 hmode

/-- the fourteen predictor bodies, channel by channel, are the specification's predictors for all
    neighbour pixels (the kernel fact under `predictor_transform_is_spec`) -/
theorem predictor_bodies_are_spec (m : Nat) (hm : m < 14) (L T TR TL : Nat) :
    LTrProof.SameCh (LTrProof.packL (LTr.predPx m (LTrProof.bytesOf L) (LTrProof.bytesOf T) (LTrProof.bytesOf TR) (LTrProof.bytesOf TL)))
      (VP8L.predict m L T TR TL) := by
  rw [LTrProof.predPx_bytesOf L T TR TL m hm]
  exact LTrProof.sameCh_packL_bytesOf _

/-- **`apply_color_transform` is the specification's inverse colour transform** for every width,
    `size_bits`, transform sub-image and byte buffer of `w·h` pixels (`LTr.applyColor` gives each byte
    of the complete rows `chunks_exact_mut(width * 4)` by position, with the transform element of its
    block; wrapping u32 deltas against the signed arithmetic shift). -/
theorem color_transform_is_spec (w h bits : Nat) (d a : Array Nat) (hb : LTrProof.Bytes a) (hd : LTrProof.Bytes d) (hd4 : d.size % 4 = 0)
    (hs : a.size = 4 * w * h) (hw : 0 < w) :
    LTrProof.pixels (LTr.applyColor w bits d a) = VP8LP.invColor bits (LTrProof.pixels d).toArray w (LTrProof.pixels a) 0 :=
  LTrProof.color_is_spec w h bits d a hb hd hd4 hs hw

/-- **`apply_subtract_green_transform` is the specification's** for every byte buffer of whole pixels -/
theorem subtract_green_is_spec (a : Array Nat) (hb : LTrProof.Bytes a) (h4 : a.size % 4 = 0) :
    LTrProof.pixels (LTr.applySubGreen a) = (LTrProof.pixels a).map VP8LP.invSubGreenPx :=
  LTrProof.subGreen_is_spec a hb

/-- **any sequence of the predictor / colour / subtract-green drivers, applied one after the other
    to the same buffer, computes the specification's `applyT`** (the inverse transforms in stream
    order reversed): each driver leaves bytes and the buffer size as it found them, so the three
    driver theorems chain for every list of transforms, sub-images with modes 0..13 and buffer. -/
theorem transform_drivers_compose (w h : Nat) (hw : 0 < w) (hh : 0 < h) (ts : List LTrProof.TB) (a : Array Nat)
    (hg : ∀ t, t ∈ ts → LTrProof.GoodT t) (hb : LTrProof.Bytes a) (hs : a.size = 4 * (w * h)) :
    LTrProof.pixels (LTrProof.applyTB w h ts a) = VP8LP.applyT w h (ts.map LTrProof.specT) w (LTrProof.pixels a) :=
  LTrProof.drivers_compose w h hw hh ts a hg hb hs

theorem bytes_of_all (a : Array Nat) (h : a.toList.all (· < 256) = true) : LTrProof.Bytes a :=
  LTrProof.bytes_of_lt a fun j hj => by
    rw [Array.getD_eq_getD_getElem?, Array.getElem?_eq_getElem hj]
    exact of_decide_eq_true (List.all_eq_true.mp h a[j] (Array.getElem_mem_toList hj))

-- non-vacuity: the hypotheses of `predictor_transform_is_spec` hold of a 3 x 2 image with one block
-- in Select mode (11)
example : LTrProof.Bytes #[1, 2, 3, 4, 250, 6, 7, 8, 9, 200, 11, 12, 13, 14, 15, 16, 17, 18, 19, 20, 21, 22, 23, 24] ∧
    LTrProof.Bytes #[0, 11, 0, 255] ∧ (∀ k, (#[0, 11, 0, 255] : Array Nat).getD (4 * k + 1) 0 < 14) := by
  refine ⟨bytes_of_all _ (by decide), bytes_of_all _ (by decide), ?_⟩
  intro k
  rcases k with _ | k
  · decide
  · have : (#[0, 11, 0, 255] : Array Nat).getD (4 * (k + 1) + 1) 0 = 0 := by
      simp only [Array.getD]; rw [dif_neg (by simp; omega)]
    omega

end C01
