import WebpVerif.Lemmas.ScanAnim
import WebpVerif.Lemmas.OpenSimple

/-!
# C08 — header and metadata accessors report exactly what the container holds

`Container` models `WebPDecoder::new` (`read_data`), `read_chunk` and the accessors.
Field-level facts for EVERY field value (VP8L sizes 1..16384, 14-bit VP8 sizes, 24-bit canvas sizes,
flag bytes, durations, chunk-size rounding), the memory-limit rule of the metadata accessors, the
scan loop over arbitrary chunk orders, and parse∘print theorems for whole files of the four
layouts: simple lossy, simple lossless, extended still, animated.
-/
namespace C08
open Container

/-- VP8L header: for every legal size 1..16384 (the maximum included) and both alpha bits, the
    decoded fields are exactly the encoded ones and the version test passes -/
theorem vp8l_fields (w h : Nat) (alpha : Bool) (hw : 1 ≤ w ∧ w ≤ 16384) (hh : 1 ≤ h ∧ h ≤ 16384) :
    let header := (w - 1) + (h - 1) * 2 ^ 14 + (if alpha then 1 else 0) * 2 ^ 28
    header % 2 ^ 14 + 1 = w ∧ header / 2 ^ 14 % 2 ^ 14 + 1 = h ∧
    (header / 2 ^ 28 % 2 == 1) = alpha ∧ header / 2 ^ 29 = 0 ∧ header < 2 ^ 32 :=
  ScanProof.vp8lWord_fields w h alpha hw hh

/-- VP8 frame header: the size is the low 14 bits of each 16-bit field (upper 2 bits = scaling) -/
theorem vp8_fields (w scale : Nat) (hw : w < 2 ^ 14) : (w + scale * 2 ^ 14) % 2 ^ 14 = w :=
  (ScanProof.digit w scale _ hw).1

/-- VP8X: 24-bit canvas fields hold size − 1, for every canvas size up to 2^24 -/
theorem vp8x_canvas (cw : Nat) (h : 1 ≤ cw ∧ cw ≤ 2 ^ 24) :
    le (EncContainer.le32 (cw - 1) |>.take 3) + 1 = cw := by
  rw [show le ((EncContainer.le32 (cw - 1)).take 3) = cw - 1 from EncContainer.le_take3 _ (Nat.sub_one_lt_of_le h.1 h.2)]
  exact Nat.sub_add_cancel h.1

/-- VP8X flag byte: each feature bit is read from its own position, for all 256 byte values -/
theorem vp8x_flags : ∀ flags < 256,
    ((flags / 32 % 2 == 1) = (flags &&& 0x20 != 0)) ∧ ((flags / 16 % 2 == 1) = (flags &&& 0x10 != 0)) ∧
    ((flags / 8 % 2 == 1) = (flags &&& 0x08 != 0)) ∧ ((flags / 4 % 2 == 1) = (flags &&& 0x04 != 0)) ∧
    ((flags / 2 % 2 == 1) = (flags &&& 0x02 != 0)) := by
  decide +kernel

/-- chunk sizes are rounded up to even, saturating at the 32-bit limit -/
theorem rounded_even (size : Nat) (h : size < 2 ^ 32 - 1) :
    min (size + size % 2) (2 ^ 32 - 1) = size + size % 2 ∧ (size + size % 2) % 2 = 0 := by
  omega

/-- frame duration: the low 24 bits of the little-endian u32 read at offset 12 of the ANMF
    payload, whatever the flags byte that follows holds -/
theorem duration_field (d flagsByte : Nat) (hd : d < 2 ^ 24) :
    (d + flagsByte * 2 ^ 24) % 2 ^ 24 = d := (ScanProof.digit d flagsByte _ hd).1

/-- **Memory limit rule**: a registered chunk larger than the limit yields
    `MemoryLimitExceeded` before any read or allocation; otherwise, if it lies inside the file,
    the exact bytes of its range are returned; an absent chunk yields `None`. -/
theorem read_chunk_rule (chunks : Chunks) (k : List Nat) (limit : Nat) (r : Reader) :
    (chunks.get? k = none → readChunk chunks k limit r = .ok (none, r)) ∧
    (∀ s e, chunks.get? k = some (s, e) → e - s > limit → readChunk chunks k limit r = .error .memoryLimitExceeded) ∧
    (∀ s e, chunks.get? k = some (s, e) → e - s ≤ limit → s + (e - s) ≤ r.data.length →
      readChunk chunks k limit r = .ok (some ((r.data.drop s).take (e - s)), { r with pos := s + (e - s) })) := by
  refine ⟨?_, ?_, ?_⟩
  · intro h; unfold readChunk; rw [h]
  · intro s e h hl; unfold readChunk; rw [h]; simp only; rw [if_pos hl]
  · intro s e h hl hin
    unfold readChunk; rw [h]; simp only
    rw [if_neg (Nat.not_lt.mpr hl)]
    unfold readExact
    simp only
    rw [if_pos hin]

/-- `entry(k).or_insert(v)` keeps the first binding: a repeated chunk never replaces the first -/
theorem or_insert_first (c : Chunks) (k : List Nat) (v v' : Nat × Nat) (h : c.get? k = some v) :
    (c.orInsert k v').get? k = some v :=
  ScanProof.get_orInsert_old c k v v' h

/-- ... and inserting another key does not disturb it -/
theorem or_insert_other (c : Chunks) (k k' : List Nat) (v' : Nat × Nat) (hne : k' ≠ k) :
    (c.orInsert k' v').get? k = c.get? k :=
  ScanProof.get_orInsert_other c k k' v' hne

theorem buffer_size (i : Info) : outputBufferSize i = i.width * i.height * (if i.hasAlpha then 4 else 3) := rfl

/-- **Scan loop, any chunk order**: scanning any sequence of well-formed non-ANMF chunks - known
    ones in any order and multiplicity, unknown ones anywhere, odd sizes padded - terminates
    without error and registers, for every known fourcc, the payload range of its FIRST occurrence. -/
theorem scan_full (pre : List Nat) (cs : List (List Nat × List Nat)) (maxPos : Nat)
    (hall : ∀ c ∈ cs, EncContainer.ChunkOk c ∧ c.1 ≠ ANMF)
    (hmax : pre.length + (ScanProof.layout cs).length < maxPos) :
    ∃ s r, scanLoop maxPos (cs.length + 1)
        { position := pre.length, chunks := [], numFrames := 0, loopDuration := 0, isLossy := false }
        { data := pre ++ ScanProof.layout cs, pos := pre.length } = .ok (s, r) ∧
      s.numFrames = 0 ∧ ∀ k ∈ known, s.chunks.get? k = ScanProof.firstRange k pre.length cs := by
  obtain ⟨p1, p2, _⟩ := ScanProof.plain_items cs
  have hat : ScanProof.At (pre ++ ScanProof.layout cs) pre.length (ScanProof.layout (ScanProof.chunksOf (cs.map .plain))) :=
    ⟨pre, by rw [p1], rfl⟩
  obtain ⟨a1, _, _, a4⟩ := ScanProof.after_items (cs.map .plain)
    { position := pre.length, chunks := [], numFrames := 0, loopDuration := 0, isLossy := false } (Nat.two_pow_pos 64)
  rw [p1] at a4
  rw [p2] at a1
  exact ⟨_, _, ScanProof.scanLoop_items maxPos (by rwa [List.length_append]) (cs.map .plain) _ _
      (ScanProof.plain_ok cs hall) (by rw [List.length_map]; exact Nat.lt_succ_self _) hat,
    a1, a4⟩

/-- **Whole file, extended still**: `WebPDecoder::new` on RIFF header + VP8X chunk (any flags
    byte without the animation bit, any reserved bytes, any canvas up to 2^24 per side) + ANY
    sequence of further chunks that contains what the flags promise and exactly one kind of image
    chunk succeeds and reports the canvas size, the alpha flag, lossy-ness, and for every known
    fourcc the payload range of its first occurrence. -/
theorem open_extended_still (flags r0 r1 r2 cw ch : Nat) (cs : List (List Nat × List Nat))
    (hfl : flags < 256) (hr : r0 < 256 ∧ r1 < 256 ∧ r2 < 256)
    (hcw : 1 ≤ cw ∧ cw ≤ 2 ^ 24) (hch : 1 ≤ ch ∧ ch ≤ 2 ^ 24) (hprod : cw * ch < 2 ^ 32)
    (hall : ∀ c ∈ cs, EncContainer.ChunkOk c ∧ c.1 ≠ ANMF)
    (hsize : 22 + (ScanProof.layout cs).length < 2 ^ 32)
    (hanim : flags / 2 % 2 = 0)
    (hicc : flags / 32 % 2 = 1 → ScanProof.has ICCP cs = true) (hexif : flags / 8 % 2 = 1 → ScanProof.has EXIF cs = true)
    (hxmp : flags / 4 % 2 = 1 → ScanProof.has XMP cs = true) (hone : ScanProof.has VP8 cs ≠ ScanProof.has VP8L cs) :
    ∃ info, openFile (ScanProof.extendedFile flags r0 r1 r2 cw ch cs) = .ok info ∧
      info.width = cw ∧ info.height = ch ∧ info.extended = true ∧ info.animation = false ∧
      info.isLossy = ScanProof.has VP8 cs ∧ info.hasAlpha = (flags / 16 % 2 == 1) ∧ info.numFrames = 0 ∧ info.loopCount = 1 ∧
      ∀ k ∈ known, info.chunks.get? k = ScanProof.firstRange k 30 cs := by
  obtain ⟨p1, p2, _, p4⟩ := ScanProof.plain_items cs
  generalize hF : ScanProof.extendedFile flags r0 r1 r2 cw ch cs = F
  obtain ⟨e1, e2, e3, e4, e5, e6, e7⟩ := ScanProof.extended_prefix flags r0 r1 r2 cw ch cs hF.symm hsize hcw hch
  obtain ⟨s', hscan, a1, _, a3, hget, hhas⟩ := ScanProof.extended_scan flags r0 r1 r2 cw ch (cs.map .plain) (F := F)
    (by rw [p1]; exact hF.symm) (ScanProof.plain_ok cs hall)
  rw [p1] at hscan hget hhas
  rw [p2] at a1
  rw [p4] at a3
  obtain ⟨_, k2, k3, k4, k5, k6, k7⟩ := ScanProof.known_mem
  obtain ⟨n1, n2, n3⟩ := ScanProof.fourcc_arm.2.2.2
  have hanmf : s'.chunks.get? ANMF = none :=
    (hget _ k2).trans (ScanProof.firstRange_absent ANMF cs 30 fun c hc => (hall c hc).2)
  -- the reads and the arm they select; the canvas; the scan; the `ChunkMissing` test; no frame to look into
  simp only [openFile, readData, e1, e2, e3, e4, e5, e6, e7, bne_self_eq_false, Bool.false_eq_true, if_false, if_true,
    n1, n2, n3, Nat.sub_add_cancel hcw.1, Nat.sub_add_cancel hch.1, Nat.reduceAdd, if_neg (Nat.not_le.mpr hprod),
    hscan, hhas _ k3, hhas _ k4, hhas _ k5, hhas _ k6, hhas _ k7, hanim,
    ScanProof.promised _ _ hicc, ScanProof.promised _ _ hexif, ScanProof.promised _ _ hxmp,
    beq_eq_false_iff_ne.mpr hone, hanmf, a3, Bool.false_or]
  exact ⟨_, rfl, rfl, rfl, rfl, rfl, rfl, rfl, a1, rfl, hget⟩

/-- **Metadata accessors.** On an extended file whose chunk table binds `k` to its first top-level
    occurrence (`hinfo`; `open_extended_still` and `open_animated` provide it) they return exactly
    the payload of the first chunk of that name, `MemoryLimitExceeded` iff it is larger than the
    limit, `None` iff no such chunk exists. -/
theorem metadata_exact (flags r0 r1 r2 cw ch : Nat) (cs : List (List Nat × List Nat)) (info : Info) (k : List Nat) (limit : Nat)
    (hall : ∀ c ∈ cs, EncContainer.ChunkOk c) (hinfo : info.chunks.get? k = ScanProof.firstRange k 30 cs) :
    (ScanProof.firstRange k 30 cs = none → metadata (ScanProof.extendedFile flags r0 r1 r2 cw ch cs) info k limit = .ok none) ∧
    (∀ a b, ScanProof.firstRange k 30 cs = some (a, b) → ∃ c ∈ cs, c.1 = k ∧
      (c.2.length > limit → metadata (ScanProof.extendedFile flags r0 r1 r2 cw ch cs) info k limit = .error .memoryLimitExceeded) ∧
      (c.2.length ≤ limit → metadata (ScanProof.extendedFile flags r0 r1 r2 cw ch cs) info k limit = .ok (some c.2))) :=
  ScanProof.metadata_exact flags r0 r1 r2 cw ch cs info k limit hall hinfo

/-- non-vacuity: a concrete extended file with an unknown chunk, an EXIF chunk of odd size, a
    VP8L chunk and a second EXIF chunk meets the hypotheses; the first EXIF wins -/
example : ScanProof.firstRange EXIF 30 [(fourccOf "JUNK", [1, 2, 3]), (EXIF, [9]), (VP8L, [0x2f, 0, 0, 0, 0]), (EXIF, [7, 7])]
    = some (50, 51) := by decide +kernel

/-- **Whole file, animated.** `WebPDecoder::new` on RIFF header + VP8X with the animation bit +
    ANY sequence of ordinary chunks and ANMF frames (each frame: 16 header bytes, the header of
    its first sub-chunk, anything after) containing at least one frame, an ANIM chunk of 6 bytes
    somewhere and what the flags promise, succeeds and reports: the canvas size, the alpha flag,
    `num_frames` = the number of ANMF chunks, `loop_duration` = the sum of the frames' 24-bit
    durations (whatever the flag byte that shares the 32-bit word holds), lossy-ness = some frame
    starts with a VP8 or ALPH sub-chunk, and `loop_count` / background colour (B,G,R,A stored,
    R,G,B,A reported) from the FIRST ANIM chunk - whatever the order of the chunks. -/
theorem open_animated (flags r0 r1 r2 cw ch : Nat) (items : List ScanProof.Item)
    (hfl : flags < 256) (hr : r0 < 256 ∧ r1 < 256 ∧ r2 < 256)
    (hcw : 1 ≤ cw ∧ cw ≤ 2 ^ 24) (hch : 1 ≤ ch ∧ ch ≤ 2 ^ 24) (hprod : cw * ch < 2 ^ 32)
    (hall : ∀ it ∈ items, it.Ok)
    (hsize : 22 + (ScanProof.layout (ScanProof.chunksOf items)).length < 2 ^ 32)
    (hanim : flags / 2 % 2 = 1) (hframes : 0 < ScanProof.numFrames items)
    (hanimc : ScanProof.has ANIM (ScanProof.chunksOf items) = true)
    (hanim6 : ∀ c ∈ ScanProof.chunksOf items, c.1 = ANIM → c.2.length = 6)
    (hicc : flags / 32 % 2 = 1 → ScanProof.has ICCP (ScanProof.chunksOf items) = true)
    (hexif : flags / 8 % 2 = 1 → ScanProof.has EXIF (ScanProof.chunksOf items) = true)
    (hxmp : flags / 4 % 2 = 1 → ScanProof.has XMP (ScanProof.chunksOf items) = true) :
    ∃ info bs, openFile (ScanProof.extendedFile flags r0 r1 r2 cw ch (ScanProof.chunksOf items)) = .ok info ∧
      (∃ c ∈ ScanProof.chunksOf items, c.1 = ANIM ∧ c.2 = bs) ∧
      info.width = cw ∧ info.height = ch ∧ info.extended = true ∧ info.animation = true ∧
      info.hasAlpha = (flags / 16 % 2 == 1) ∧ info.numFrames = ScanProof.numFrames items ∧
      info.loopDuration = ScanProof.durSum items % 2 ^ 64 ∧
      info.isLossy = (ScanProof.anyLossy items || ScanProof.has VP8 (ScanProof.chunksOf items)) ∧
      info.loopCount = bs.getD 4 0 + 256 * bs.getD 5 0 ∧
      info.background = [bs.getD 2 0, bs.getD 1 0, bs.getD 0 0, bs.getD 3 0] ∧
      -- the chunk table after the first frame's sub-chunks were registered: every known name
      -- that is not one of the (at most two) sub-chunk names of the first frame is still bound
      -- to its first top-level occurrence, so `metadata_exact` applies to animated files too
      (∀ s0 e0, ScanProof.firstRange ANMF 30 (ScanProof.chunksOf items) = some (s0, e0) →
        ∀ k ∈ known, (∀ n ∈ ScanProof.frameSubNames (ScanProof.extendedFile flags r0 r1 r2 cw ch (ScanProof.chunksOf items)) s0 e0, n ≠ k) →
          info.chunks.get? k = ScanProof.firstRange k 30 (ScanProof.chunksOf items)) :=
  ScanProof.open_animated flags r0 r1 r2 cw ch items hfl hr hcw hch hprod hall hsize hanim hframes hanimc hanim6 hicc hexif hxmp

/-- **Whole file, simple lossless layout**: RIFF header + one `VP8L` chunk.  For EVERY size
    1..16384 per side and both alpha bits - whatever the declared RIFF and chunk sizes and
    whatever follows the five header bytes - `WebPDecoder::new` succeeds and reports exactly that
    width, height and alpha bit, not lossy, not animated, and the payload range of the chunk. -/
theorem open_simple_lossless (riffSize plen w h : Nat) (alpha : Bool) (body : List Nat)
    (hrs : riffSize < 2 ^ 32) (hpl : plen < 2 ^ 32) (hw : 1 ≤ w ∧ w ≤ 16384) (hh : 1 ≤ h ∧ h ≤ 16384) :
    openFile (ScanProof.simpleLossless riffSize plen w h alpha body) =
      .ok { emptyInfo with width := w, height := h, hasAlpha := alpha, chunks := [(VP8L, (20, 20 + plen))] } :=
  ScanProof.open_simple_lossless riffSize plen w h alpha body hrs hpl hw hh

/-- **Whole file, simple lossy layout**: RIFF header + one `VP8 ` chunk holding a key frame (first
    tag byte even), the start code and the two 16-bit size fields.  For EVERY 14-bit size 1..16383
    and every value of the 2-bit scale fields, the accessors report exactly the 14-bit sizes,
    lossy, no alpha, not animated. -/
theorem open_simple_lossy (riffSize plen t0 t1 t2 w sx h sy : Nat) (body : List Nat)
    (hrs : riffSize < 2 ^ 32) (hpl : plen < 2 ^ 32) (ht : t0 < 256 ∧ t1 < 256 ∧ t2 < 256) (hkey : t0 % 2 = 0)
    (hw : 1 ≤ w ∧ w < 2 ^ 14) (hh : 1 ≤ h ∧ h < 2 ^ 14) (hsx : sx < 4) (hsy : sy < 4) :
    openFile (ScanProof.simpleLossy riffSize plen t0 t1 t2 w sx h sy body) =
      .ok { emptyInfo with width := w, height := h, isLossy := true, chunks := [(VP8, (20, 20 + plen))] } :=
  ScanProof.open_simple_lossy riffSize plen t0 t1 t2 w sx h sy body hrs hpl ht hkey hw hh hsx hsy

-- non-vacuity: a 16384 x 1 lossless header with alpha
example : (openFile (ScanProof.simpleLossless 18 6 16384 1 true [0])).toOption.map
    (fun i => (i.width, i.height, i.hasAlpha, i.isLossy)) = some (16384, 1, true, false) := by decide +kernel

-- non-vacuity of the sub-chunk hypothesis: a frame with an ALPH chunk (odd size 3, padded) and a
-- VP8 chunk registers exactly the names ALPH and VP8 - even though the ALPH payload starts with
-- the bytes of the name "XMP " (the regression of /repo fix a1f51e1)
example : ScanProof.frameSubNames
    (List.replicate 30 0 ++ (ANMF ++ [44, 0, 0, 0] ++ List.replicate 16 0 ++ ALPH ++ [5, 0, 0, 0] ++ [88, 77, 80, 32, 9, 0] ++
      VP8 ++ [2, 0, 0, 0] ++ [1, 2])) 38 82 = [ALPH, VP8] := by decide +kernel

end C08
