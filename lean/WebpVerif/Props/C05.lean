import WebpVerif.Lemmas.Alpha
import WebpVerif.Props.C13
import WebpVerif.Lemmas.Anim

/-!
# C05 — lossy stills: RGB(A) conversion and the alpha plane are exact

RGB: `C13` (every pixel is libwebp's BT.601 kernel of luma (x,y) and chroma (x/2,y/2), for every
width/height parity).  Alpha: `Alpha` models the ALPH info byte, `get_alpha_predictor` and the
sequential in-place loop over the interleaved RGBA buffer; `AlphaSpec` is the container
specification's filtering rule.  The payloads themselves (VP8 planes, VP8L-compressed alpha) are
C02's and C01's subject.
-/
namespace C05
open Alpha AlphaSpec

/-- ALPH info byte, all 256 values: filter = bits 2-3, compression = bits 0-1 (0 raw, 1 lossless,
    else rejected), pre-processing = bits 4-5 (0/1 accepted, else rejected), top bits ignored -/
theorem alph_header : ∀ b < 256,
    header b = (if b / 16 % 4 > 1 then .error .invalidPreprocessing
                else if b % 4 > 1 then .error .invalidCompression
                else .ok (b / 4 % 4, b % 4 == 1)) :=
  fun _ _ => rfl

/-- **The alpha plane equals the specified reconstruction**, for every width ≥ 1, height, all
    four prediction filters and all delta planes (raster-order induction; 1-pixel rows/columns are
    ordinary instances) -/
theorem alpha_plane_eq (w h : Nat) (hw : 0 < w) (f : Nat) (data : Array Nat) (buf : Array Nat)
    (hbuf : buf.size = 4 * (w * h)) :
    alphaPlane (unfilterInto w f data (w * h) buf) (w * h) = reconstruct w f data.toList (w * h) := by
  obtain ⟨_, hget⟩ := unfilter_spec w hw f data buf (w * h) (by omega)
  apply List.ext_getElem?
  intro i
  unfold alphaPlane
  by_cases hi : i < w * h
  · rw [List.getElem?_map, List.getElem?_range hi, Option.map_some, hget i hi,
      List.getD_eq_getElem?_getD, List.getElem?_eq_getElem (by rw [reconstruct_length]; exact hi)]
    rfl
  · rw [List.getElem?_eq_none (by simp; omega), List.getElem?_eq_none (by rw [reconstruct_length]; omega)]

/-- the alpha loop touches nothing but alpha bytes: every byte whose index is not ≡ 3 (mod 4)
    keeps the value the colour conversion wrote -/
theorem alpha_loop_keeps_colour (w f : Nat) (data buf : Array Nat) (n j : Nat) (hj : j % 4 ≠ 3) :
    (unfilterInto w f data n buf)[j]? = buf[j]? := by
  unfold unfilterInto
  induction n with
  | zero => rfl
  | succ n ih =>
    rw [List.range_succ, List.foldl_append]
    simp only [List.foldl_cons, List.foldl_nil]
    rw [Array.getElem?_setIfInBounds]
    have : ¬ (n * 4 + 3 = j) := by omega
    rw [if_neg this]; exact ih

/-- **Lossy still with alpha, every pixel**: after `fill_rgba` and the alpha loop, pixel (x, y) of
    the output holds `Yuv.rgb` (libwebp's conversion, by `C13.rgb_kernel`) of luma (x,y) / chroma
    (x/2,y/2) in its colour bytes and the specified alpha reconstruction in its alpha byte — for
    every width and height parity. -/
theorem still_rgba (w h : Nat) (hw : 0 < w) (ybuf ubuf vbuf buf : List Nat) (f : Nat) (data : Array Nat)
    (hyl : ybuf.length = w * h) (hul : ubuf.length = ((w + 1) / 2) * ((h + 1) / 2))
    (hvl : vbuf.length = ((w + 1) / 2) * ((h + 1) / 2)) (hbl : buf.length = 4 * w * h)
    (x y : Nat) (hx : x < w) (hy : y < h) :
    let out := unfilterInto w f data (w * h) (Yuv.fillRgba w ybuf ubuf vbuf buf).toArray
    (∀ c, c < 3 → out[(y * w + x) * 4 + c]? =
        some (Yuv.rgb c (ybuf.getD (y * w + x) 0) (ubuf.getD (((w + 1) / 2) * (y / 2) + x / 2) 0)
          (vbuf.getD (((w + 1) / 2) * (y / 2) + x / 2) 0))) ∧
    alphaAt out (y * w + x) = (reconstruct w f data.toList (w * h)).getD (y * w + x) 0 := by
  intro out
  have hlen : (Yuv.fillRgba w ybuf ubuf vbuf buf).length = 4 * w * h :=
    (Yuv.fillRows_length _ Yuv.fillRgbaRow_length ..).trans hbl
  refine ⟨fun c hc => ?_, ?_⟩
  · show (unfilterInto w f data (w * h) _)[(y * w + x) * 4 + c]? = _
    rw [alpha_loop_keeps_colour _ _ _ _ _ _ (by omega), List.getElem?_toArray,
      C13.frame_rgba w h ybuf ubuf vbuf buf hyl hul hvl hbl x y c hx hy (Nat.lt_succ_of_lt hc),
      if_neg (Nat.ne_of_lt hc)]
  · exact (unfilter_spec w hw f data _ (w * h)
      (by rw [List.size_toArray, hlen, Nat.mul_comm (w * h), Nat.mul_assoc]; exact Nat.le_refl _)).2
      _ (Anim.flat_lt w h x y hx hy)

-- non-vacuity: a 3x2 plane under the gradient filter (its first row and column take the left and
-- the top neighbour), model against specification; the specified values under the horizontal filter
example : alphaPlane (unfilterInto 3 3 #[10, 20, 250, 7, 200, 9] 6 (Array.replicate 24 0)) 6 =
    reconstruct 3 3 [10, 20, 250, 7, 200, 9] 6 := by decide +kernel
example : reconstruct 3 1 [10, 20, 250, 7, 200, 9] 6 = [10, 30, 24, 17, 217, 226] := by decide +kernel

end C05
