import WebpVerif.Lemmas.BitReader
import WebpVerif.Model.EncContainer

/-!
# C10 — results independent of reader chunking; I/O faults surface as errors

Theorem part.  `BitReader` models `lossless::BitReader` over a `BufRead` that exposes an
arbitrary non-empty prefix of the remaining bytes at each `fill_buf` (the `expose` schedule).
The two refill paths — one unaligned 8-byte look-ahead, or one byte at a time — are proved to
leave the same position and bit count, and the reservoir is proved to hold a valid window of the
stream in both (stale look-ahead bits above `nbits` are real upcoming bits, so OR-ing them again
is idempotent).  Hence every `read_bits` / `fill` / `peek`+`consume` script returns the same
values and fails at the same request under EVERY pair of schedules.

What is not a theorem (checked by enumeration on every run, see the evidence): that `std`'s
`read_exact`/`Take`/`Seek` honour their contracts, that the Rust code has a `?` at every I/O
call, and the behaviour of the whole decoder over chunking readers with a fault injected at
every I/O call index.
-/
namespace C10
open BitReader

/-- `nbits | 56` equals what the byte-at-a-time path reaches: both refill paths agree -/
theorem fill_paths_agree : ∀ n < 64, n ||| 56 = n + 8 * ((63 - n) / 8) := or56

/-- position and bit count after `fill` are the same for every schedule -/
theorem fill_schedule_independent (data : List Nat) (e1 e2 : Nat → Nat) (br : BR) (h : br.nbits ≤ 63) :
    (fill data e1 br).pos = (fill data e2 br).pos ∧ (fill data e1 br).nbits = (fill data e2 br).nbits :=
  fill_same data e1 e2 br br ⟨rfl, rfl⟩ h

/-- scripts of the requests whose results the decoder relies on (everything but the raw
    `peek_full`, whose bits above `nbits` are look-ahead) -/
def noPeekFull : List Op → Bool
  | [] => true
  | .peekFull :: _ => false
  | _ :: ops => noPeekFull ops

/-- **Schedule independence.**  For every byte string, every pair of `fill_buf` schedules and
    every script, started from states that agree on position and bit count and satisfy the window
    invariant (in particular from the initial state), the two runs return the same values and the
    same error, request by request. -/
theorem schedule_independent_from (data : List Nat) (hb : ∀ b ∈ data, b < 256) (e1 e2 : Nat → Nat)
    (ops : List Op) (hops : noPeekFull ops = true) :
    ∀ (a b : BR), Same a b → Inv data a → Inv data b → run data e1 a ops = run data e2 b ops := by
  suffices H : ∀ a b, Agree data a b → run data e1 a ops = run data e2 b ops from
    fun a b hab ia ib => H a b ⟨hab, ia, ib⟩
  induction ops with
  | nil => intro a b _; rfl
  | cons op ops ih =>
    have step (hops : noPeekFull ops = true) (n : Nat) (a b : BR) (h : Agree data a b) :
        run data e1 a (.peekConsume n :: ops) = run data e2 b (.peekConsume n :: ops) := by
      rcases Nat.lt_or_ge a.nbits n with hn | hn
      · simp only [run, consume_of_lt hn, consume_of_lt (h.same.2 ▸ hn)]
      · simp only [run, consume_of_le hn, consume_of_le (h.same.2 ▸ hn)]
        rw [h.peek hn, ih hops _ _ (h.consume hn)]
    intro a b h
    cases op with
    | read n =>
      rw [run_read, run_read, ← h.same.2]
      split
      next => exact step hops n _ _ (h.fill hb e1 e2)
      next => exact step hops n a b h
    | fill =>
      simp only [run]
      rw [ih hops _ _ (h.fill hb e1 e2)]
    | peekConsume n => exact step hops n a b h
    | peekFull => cases hops

theorem schedule_independent (data : List Nat) (hb : ∀ b ∈ data, b < 256) (e1 e2 : Nat → Nat)
    (ops : List Op) (hops : noPeekFull ops = true) :
    run data e1 init ops = run data e2 init ops :=
  schedule_independent_from data hb e1 e2 ops hops init init ⟨rfl, rfl⟩ (inv_init data) (inv_init data)

/-- and the values returned are the stream's bits: `peek n` on a reader holding at least `n` bits
    returns bits `[bitpos, bitpos + n)` of the byte string (LSB-first), `bitpos = 8·pos − nbits` -/
theorem read_bits_value (data : List Nat) (br : BR) (n : Nat) (h : Inv data br) (hn : n ≤ br.nbits) :
    peek br n = (le64 data >>> (8 * br.pos - br.nbits)) % 2 ^ n := peek_value data br n h hn

/-- `write_all` calls against a sink that fails at call `failAt` (if any): the `?` chain -/
def runWrites : List (List Nat) → Nat → Option Nat → Except Unit (List Nat)
  | [], _, _ => .ok []
  | w :: ws, k, failAt =>
    if failAt = some k then .error ()
    else match runWrites ws (k + 1) failAt with
      | .ok rest => .ok (w ++ rest)
      | .error e => .error e

/-- without a fault the sink receives exactly the file: the concatenation of the writes -/
theorem writes_concat (ws : List (List Nat)) (k : Nat) : runWrites ws k none = .ok ws.flatten := by
  induction ws generalizing k with
  | nil => rfl
  | cons w ws ih => simp [runWrites, ih]

/-- a failing call makes the whole encode fail -/
theorem first_fault_propagates (ws : List (List Nat)) (k j : Nat) (h : k ≤ j) (hj : j < k + ws.length) :
    runWrites ws k (some j) = .error () := by
  induction ws generalizing k with
  | nil => exact absurd hj (Nat.not_lt.2 h)
  | cons w ws ih =>
    rw [runWrites]
    rcases Nat.eq_or_lt_of_le h with rfl | hk
    · exact if_pos rfl
    · rw [if_neg fun e => Nat.ne_of_gt hk (Option.some.inj e), ih (k + 1) hk (Nat.add_right_comm .. ▸ hj)]

theorem encode_is_concat (frame icc exif xmp : List Nat) (w h : Nat) (a : Bool) :
    runWrites (EncContainer.encodeWrites frame icc exif xmp w h a) 0 none =
      .ok (EncContainer.encode frame icc exif xmp w h a) := writes_concat _ 0

-- non-vacuity: the crate's own bit reader test vector, under two very different schedules
example : run [0x9C, 0x41, 0xE1] (fun _ => 1) init [.read 3, .read 2, .read 6, .read 10, .read 3] =
    [some 4, some 3, some 12, some 40, some 7] := by decide +kernel
example : run [0x9C, 0x41, 0xE1] (fun _ => 1) init [.read 3, .read 2, .read 6, .read 10, .read 3] =
    run [0x9C, 0x41, 0xE1] (fun _ => 1000) init [.read 3, .read 2, .read 6, .read 10, .read 3] :=
  schedule_independent _ (by decide) _ _ _ rfl

end C10
