import WebpVerif.Model.Enc
import WebpVerif.Model.LosslessKernels
import WebpVerif.Spec.Lossless
import WebpVerif.Lemmas.BitWriter
import WebpVerif.Lemmas.BitReader
import WebpVerif.Lemmas.EncLoop
import WebpVerif.Lemmas.EncMain
import WebpVerif.Lemmas.StreamCong

/-!
# C04 — the lossless encoder round-trips every image exactly

`Enc.encodeFrame` models `encode_frame` completely (tie 2 is byte-exact).  Proved here, for all
inputs: dimension rejection; each stage of the pixel pipeline is inverted by the specification's
inverse (subtract-green, the encoder's predictor scheme, run tokens, the run-length prefix
coding for every run 5..4096); run tokens reproduce the pixel sequence; and the bit-level
composition (`encode_roundtrip`: header, transforms, prefix codes as serialised, tokens, through
the specification decoder).  On every run the Lean specification decoder, this crate's decoder
and libwebp are also executed on generated images and return the input.
-/
namespace C04
open Enc

/-- dimensions of 0 or above 16384 are rejected; everything else is encoded -/
theorem reject_dims (data : List Nat) (w h color : Nat) (pred : Bool) :
    (encodeFrame data w h color pred).isNone = true ↔ (w = 0 ∨ w > 16384 ∨ h = 0 ∨ h > 16384) := by
  unfold encodeFrame
  by_cases hd : w = 0 ∨ w > 16384 ∨ h = 0 ∨ h > 16384
  · simp [hd]
  · rw [if_neg hd]; simp [hd]

/-- subtract-green is undone by the specification's add-green, for all channel values -/
theorem subgreen_inv (r g b : Nat) (hr : r < 256) (hb : b < 256) :
    LK.addGreen (sub8 r g) g = r ∧ LK.addGreen (sub8 b g) g = b :=
  ⟨EncRT.sub8_add r g hr, EncRT.sub8_add b g hb⟩

/-- the per-byte identity the predictor transform rests on: a residual `p − q` (mod 256) plus the
    same prediction `q` is the byte `p`.  That the encoder's choice of `q` (left neighbour in row 0,
    top neighbour below, 255 for the first alpha) is the one the decoder adds back is
    `EncRT.invPredictor_enc` -/
theorem predictor_inv (p q : Nat) (hp : p < 256) : (sub8 p q + q) % 256 = p :=
  EncRT.sub8_add p q hp

/-- run-length prefix coding: for EVERY run length 5..4096 the (symbol, extra bits) the encoder
    writes decode, by the specification's LZ77 prefix rule, to that length; the symbol is a
    legal length prefix (< 24 = 2·12, the longest run being 4096 = 2^12) -/
theorem length_symbol_inv (len : Nat) (h : len < 4097) (h5 : 5 ≤ len) :
    (lengthToSymbol len).1 < 24 ∧ LK.copyExtraBits (lengthToSymbol len).1 = (lengthToSymbol len).2 ∧
    LK.copyValue (lengthToSymbol len).1 ((len - 1) % 2 ^ (lengthToSymbol len).2) = len :=
  have ⟨h24, _, hx, hv⟩ := EncLen.length_symbol_inv len h h5
  ⟨h24, hx, hv⟩

/-- the same as a Boolean test of one run length -/
def lenOk (len : Nat) : Bool :=
  len < 5 || len > 4096 || ((lengthToSymbol len).1 < 24 && LK.copyExtraBits (lengthToSymbol len).1 == (lengthToSymbol len).2 &&
    LK.copyValue (lengthToSymbol len).1 ((len - 1) % 2 ^ (lengthToSymbol len).2) == len)

theorem lenOk_all : ∀ k < 17, ∀ j < 256, lenOk (256 * k + j) = true := by
  intro k _ j _
  unfold lenOk
  by_cases h : 5 ≤ 256 * k + j ∧ 256 * k + j < 4097
  · obtain ⟨h24, hx, hv⟩ := length_symbol_inv _ h.2 h.1
    simp only [h24, hx, hv, decide_true, beq_self_eq_true, Bool.and_self, Bool.or_true]
  · have : (decide (256 * k + j < 5) || decide (256 * k + j > 4096)) = true := by
      rw [Bool.or_eq_true, decide_eq_true_eq, decide_eq_true_eq]; omega
    rw [this, Bool.true_or]

/-- short runs 1..4 use symbols 256..259, which decode to 1..4 -/
theorem short_run_symbols (run : Nat) (h1 : 1 ≤ run) (h4 : run ≤ 4) :
    runSymbol run = 256 + run - 1 ∧ LK.copyValue (run - 1) 0 = run := by
  refine ⟨if_pos h4, ?_⟩
  unfold LK.copyValue
  rw [if_pos (Nat.lt_of_lt_of_le (Nat.sub_lt h1 Nat.one_pos) h4), Nat.sub_add_cancel h1]

/-- the pixel sequence a token list stands for -/
def expandTokens : List (List Nat × Nat) → List (List Nat)
  | [] => []
  | (p, run) :: rest => p :: (List.replicate run p ++ expandTokens rest)

theorem takeWhile_eq_replicate (p : List Nat) (l : List (List Nat)) (n : Nat)
    (h : n ≤ (l.takeWhile (· == p)).length) : l.take n = List.replicate n p :=
  EncRT.takeWhile_eq_replicate p l n h

/-- **Run tokens are lossless**: tokenising any pixel sequence (with enough fuel) and expanding
    the tokens returns the sequence; runs are at most 4096 long -/
theorem tokens_inv (px : List (List Nat)) : ∀ fuel, px.length ≤ fuel →
    expandTokens (tokenize px fuel) = px ∧ ∀ t ∈ tokenize px fuel, t.2 ≤ 4096 := by
  have e : ∀ toks, expandTokens toks = EncRT.expandToks toks := by
    intro toks
    induction toks with
    | nil => rfl
    | cons t rest ih => rw [expandTokens, EncRT.expandToks, ih]
  intro fuel h
  obtain ⟨h1, h2, _⟩ := EncRT.tokens_inv px fuel h
  exact ⟨(e _).trans h1, fun t ht => (h2 t ht).1⟩

-- the tokeniser and `length_to_symbol` on concrete input
example : tokenize [[1, 2, 3, 4], [1, 2, 3, 4], [1, 2, 3, 4], [9, 9, 9, 9]] 4 = [([1, 2, 3, 4], 2), ([9, 9, 9, 9], 0)] := by decide
example : lengthToSymbol 4096 = (23, 10) := by decide

/-- **The bit writer emits exactly the written fields.** For every sequence of
    `write_bits(bits, n)` calls (`n ≤ 64`, `bits < 2^n`) followed by `flush()`, the output bytes
    are the little-endian bytes of the number whose binary digits are the fields in order, LSB
    first, zero-padded to a whole number of bytes - whatever the interplay of the 64-bit buffer,
    the 8-byte flushes and fields straddling a word boundary (incl. the `checked_shr` corner when
    the buffer was empty) -/
theorem writer_emits_fields (ws : List (Nat × Nat)) (hv : BitWriterProof.Valid ws) :
    BitReader.le64 (BitWriterProof.output ws).toList = (BitWriterProof.streamOf ws).1 ∧
    (BitWriterProof.output ws).size = ((BitWriterProof.streamOf ws).2 + 7) / 8 :=
  have h := BitWriterProof.output_spec ws hv
  ⟨h.1, h.2.1⟩

/-- **Write/read link.** Whatever was written as the field `(bits, n)` after the fields `pre`
    is what the specification's `ReadBits(n)` - and, by `C01.read_bits_is_stream_window`, this
    crate's bit reader under every refill schedule - returns at that bit position of the output -/
theorem written_field_is_read_back (pre post : List (Nat × Nat)) (bits n : Nat)
    (hv : BitWriterProof.Valid (pre ++ (bits, n) :: post)) :
    (BitReader.le64 (BitWriterProof.output (pre ++ (bits, n) :: post)).toList >>> (BitWriterProof.streamOf pre).2) % 2 ^ n = bits := by
  have e : BitReader.le64 (BitWriterProof.output (pre ++ (bits, n) :: post)).toList =
      (BitWriterProof.streamOf (pre ++ (bits, n) :: post)).1 := (BitWriterProof.output_spec _ hv).1
  rw [e]
  exact BitWriterProof.field_window pre post bits n hv

/-- non-vacuity: fields that straddle the 64-bit buffer boundary -/
example : BitWriterProof.output [(0x2f, 8), (5, 14), (9, 14), (1, 1), (0, 3), (0x1ffffffffff, 41), (3, 2)] =
    #[0x2f, 5, 64, 2, 16, 255, 255, 255, 255, 255, 7] := by decide

/-- the only distance the encoder uses: its distance code is the single symbol 1, which the
    decoder turns (prefix value 2, plane code 2 = one pixel to the left) into distance 1, for
    every image width -/
theorem run_distance_is_one (xsize : Nat) :
    LK.copyExtraBits 1 = 0 ∧ LK.planeCodeToDistance xsize (LK.copyValue 1 0) = 1 := by
  refine ⟨by decide, ?_⟩
  have e : LK.copyValue 1 0 = 2 := by decide
  rw [e]
  unfold LK.planeCodeToDistance
  rw [if_neg (by decide)]
  have e2 : Gen.Tables.DISTANCE_MAP.getD (2 - 1) [] = [1, 0] := by decide
  simp only [e2]
  simp

theorem expandV_map (f : List Nat → Nat) : ∀ toks : List (List Nat × Nat),
    EncLoop.expandV (toks.map fun t => (f t.1, t.2)) = (expandTokens toks).map f := by
  intro toks
  induction toks with
  | nil => rfl
  | cons t rest ih =>
    obtain ⟨p, run⟩ := t
    simp only [List.map_cons, EncLoop.expandV, expandTokens, ih, List.map_append, List.map_replicate]

/-- **Encoder tokens through the decoder's pixel loop.**  For every pixel sequence `px` of a
    `w × h` image (after the forward transforms) and every packing `f` of a pixel into a number:
    the operations the encoder's tokens stand for (a literal, then - for a run - a backward
    reference of that length with distance 1), fed to the model of `decode_image_data`'s pixel
    loop (proved equal to the specification decoder in C01 and tied to the code there), yield
    exactly `px`, whatever the output buffer held before.  Together with `length_symbol_inv`,
    `short_run_symbols` and `run_distance_is_one` (symbols ↔ operations) and the inverse
    transform theorems this is the round trip at the symbol level; the bit level is
    `encode_roundtrip` below. -/
theorem pixel_loop_decodes_tokens (f : List Nat → Nat) (px : List (List Nat)) (w h : Nat) (hw : 0 < w)
    (hlen : px.length = w * h) (init : Array Nat) (hinit : init.size = w * h) :
    LLoop.decode (EncLoop.cfgEnc w h) init
        (EncLoop.opsOf ((tokenize px px.length).map fun t => (f t.1, t.2))) = .ok (px.map f).toArray := by
  have e := expandV_map f (tokenize px px.length)
  rw [(tokens_inv px px.length (Nat.le_refl _)).1] at e
  rw [EncLoop.decode_tokens w h _ init hinit (by rw [e, List.length_map, hlen]), e]

-- non-vacuity: a 3x2 image with a run, through the model of the real loop
example : LLoop.decode (EncLoop.cfgEnc 3 2) (Array.replicate 6 77)
    (EncLoop.opsOf ((tokenize [[1], [1], [1], [1], [2], [3]] 6).map fun t => (t.1.getD 0 0, t.2))) = .ok #[1, 1, 1, 1, 2, 3] := by
  decide +kernel

/-- **Round trip of every image through the specification decoder** (the headline statement of the
    property, at the level of bytes).  For every width and height in 1..16384, each of the four
    colour types (0 = L8, 1 = La8, 2 = Rgb8, 3 = Rgba8), with or without the predictor transform,
    and every input of `w·h·bytes_per_pixel` bytes: the model of `encode_frame` (byte-exact tie to
    the real function on every run) succeeds, and `VP8LP.decode` - the WebP lossless specification
    as a total function on byte strings (tied on every run to the executable specification
    `VP8L.decode`, to libwebp and to this crate's decoder) - applied to the bytes it produces
    returns exactly the same dimensions and the input pixels (grey expanded to RGB, missing alpha
    255), as ARGB values.  No hypothesis on the pixel values, sizes or histograms: the proof goes
    through the header, the transform section with the predictor's sub-image, the five prefix
    codes as `write_huffman_tree` serialises them (C14's theorem for every histogram, the
    code-length code, `max_symbol`), the packed multi-code writes of the 64-bit `BitWriter`, the
    LZ77 run tokens, and the inverse predictor and subtract-green transforms. -/
theorem encode_roundtrip (data : List Nat) (w h color : Nat) (pred : Bool)
    (hw : 1 ≤ w ∧ w ≤ 16384) (hh : 1 ≤ h ∧ h ≤ 16384) (hc : color ≤ 3) (hd : ∀ b ∈ data, b < 256)
    (hlen : data.length = w * h * EncRT.bytesPer color) :
    ∃ out, encodeFrame data w h color pred = some out ∧
      VP8LP.decode out.toList = some (w, h, (expand color data).map EncRT.pack) :=
  EncRT.encode_decodes data w h color pred hw.1 hw.2 hh.1 hh.2 hc hd hlen

/-- **… and through the crate's own entropy layer.**  The same round trip with the decoder that uses
    the models of this crate's `read_huffman_code` and `HuffmanTree` inside the stream structure
    (`LStream.decodeCrate`, compared with the real decoder on every run; `C01.entropy_layer_in_stream`):
    every image the encoder writes is read back exactly -/
theorem encode_roundtrip_crate_entropy (data : List Nat) (w h color : Nat) (pred : Bool)
    (hw : 1 ≤ w ∧ w ≤ 16384) (hh : 1 ≤ h ∧ h ≤ 16384) (hc : color ≤ 3) (hd : ∀ b ∈ data, b < 256)
    (hlen : data.length = w * h * EncRT.bytesPer color) :
    ∃ out, encodeFrame data w h color pred = some out ∧
      LStream.decodeCrate out.toList = some (w, h, (expand color data).map EncRT.pack) := by
  obtain ⟨out, h1, h2⟩ := encode_roundtrip data w h color pred hw hh hc hd hlen
  exact ⟨out, h1, by rw [LStreamProof.decodeCrate_is_spec]; exact h2⟩

/-- the pixel value the theorem speaks of is the ARGB number of the specification -/
theorem pack_is_argb (r g b a : Nat) : EncRT.pack [r, g, b, a] = VP8L.mk a r g b := EncRT.pack_quad r g b a

/-- the decoder the driver executes (`VP8LP.decodeFast`, canonical code words tabulated once per
    code) is the specification `VP8LP.decode` -/
theorem decodeFast_is_decode : VP8LP.decodeFast = VP8LP.decode := by
  have e : VP8LP.tableDec = VP8LP.specDec := by
    funext lengths bits
    unfold VP8LP.tableDec VP8LP.specDec Prefix.decodeSymbol
    by_cases h1 : (lengths.filter (· ≠ 0)).length = 1
    · simp only [h1, if_true]
    · simp only [h1, if_false]
      exact Prefix.decodeSymT_eq lengths 15 0 0 bits
  funext bytes
  unfold VP8LP.decodeFast VP8LP.decode
  rw [e]

-- non-vacuity: the hypotheses are met by a concrete 2x2 Rgba8 image (and by every other image)
example : ∃ out, encodeFrame [10, 20, 30, 255, 10, 20, 30, 255, 10, 20, 30, 255, 40, 50, 60, 70] 2 2 3 true = some out ∧
    VP8LP.decode out.toList =
      some (2, 2, [VP8L.mk 255 10 20 30, VP8L.mk 255 10 20 30, VP8L.mk 255 10 20 30, VP8L.mk 70 40 50 60]) :=
  encode_roundtrip _ 2 2 3 true (by decide) (by decide) (by decide) (by decide) (by decide)

end C04
